/-! structural prototype: labelled frame <-> positional matrix, core-only -/
namespace S
abbrev Label := String
abbrev Key := List Label

structure Frame (α : Type) where
  rows : List Key
  cols : List Key
  val  : Key → Key → α

/-- positional matrix as list of rows -/
def Frame.toMat {α} (F : Frame α) : List (List α) := F.rows.map fun s => F.cols.map fun f => F.val s f

/-- label-based read-back: position of the labels in the remembered index, NaN (`dflt`) if absent -/
def readBack {α} (rows cols : List Key) (M : List (List α)) (dflt : α) (s f : Key) : α :=
  match rows.idxOf? s, cols.idxOf? f with
  | some i, some j => ((M[i]?).bind (·[j]?)).getD dflt
  | _, _ => dflt

theorem idxOf?_getElem {l : List Key} {k : Key} {i : Nat} (h : l.idxOf? k = some i) :
    ∃ hi : i < l.length, l[i] = k :=
  (List.idxOf?_eq_some_iff.mp h).imp fun _ hk => hk.1

/-- a label of the index is found, at a position that holds it -/
theorem idxOf?_of_mem {l : List Key} {k : Key} (h : k ∈ l) : ∃ i, ∃ hi : i < l.length, l.idxOf? k = some i ∧ l[i] = k := by
  obtain ⟨i, hi⟩ := Option.isSome_iff_exists.mp (List.isSome_idxOf?.mpr h)
  obtain ⟨hil, hik⟩ := idxOf?_getElem hi
  exact ⟨i, hil, hi, hik⟩

theorem roundtrip {α} (F : Frame α) (d : α) (s f : Key) (hs : s ∈ F.rows) (hf : f ∈ F.cols) :
    readBack F.rows F.cols F.toMat d s f = F.val s f := by
  obtain ⟨i, hil, hi, hik⟩ := idxOf?_of_mem hs
  obtain ⟨j, hjl, hj, hjk⟩ := idxOf?_of_mem hf
  simp [readBack, hi, hj, Frame.toMat, hil, hjl, hik, hjk]

/-- sanitize: drop invalid rows/cols; re-insertion yields `d` exactly at the dropped labels -/
def Frame.sanitize {α} (F : Frame α) (okS okF : Key → Bool) : Frame α :=
  { rows := F.rows.filter okS, cols := F.cols.filter okF, val := F.val }

/-- a label that fails the filter is not in the filtered index -/
theorem idxOf?_filter_of_false {l : List Key} {ok : Key → Bool} {k : Key} (h : ok k = false) : (l.filter ok).idxOf? k = none :=
  List.idxOf?_eq_none_iff.mpr fun hk => Bool.eq_false_iff.mp h (List.mem_filter.mp hk).2

theorem reinsertion_dropped {α} (F : Frame α) (okS okF : Key → Bool) (d : α) (s f : Key)
    (h : okS s = false ∨ okF f = false) :
    readBack (F.sanitize okS okF).rows (F.sanitize okS okF).cols (F.sanitize okS okF).toMat d s f = d := by
  unfold readBack
  rcases h with h | h
  · rw [show (F.sanitize okS okF).rows.idxOf? s = none from idxOf?_filter_of_false h]
  · rw [show (F.sanitize okS okF).cols.idxOf? f = none from idxOf?_filter_of_false h]
    cases (F.sanitize okS okF).rows.idxOf? s <;> rfl
/-- `transform` of labelled data by a fitted frame: one row per given sample label, the columns in the FITTED order, every entry looked
up BY LABEL (the order in which the new data happens to carry its feature labels plays no role) -/
def transformBy {α} (fitCols rows : List Key) (val : Key → Key → α) : List (List α) :=
  rows.map fun s => fitCols.map fun f => val s f

/-- projecting the training frame itself gives the fitted matrix -/
theorem transformBy_training {α} (F : Frame α) : transformBy F.cols F.rows F.val = F.toMat := rfl

/-- re-transforming what `inverse_transform` hands back (the read-back labelled data) gives the fitted matrix again -/
theorem transformBy_readBack {α} (F : Frame α) (d : α) :
    transformBy F.cols F.rows (readBack F.rows F.cols F.toMat d) = F.toMat := by
  unfold transformBy Frame.toMat
  apply List.map_congr_left; intro s hs
  apply List.map_congr_left; intro f hf
  exact roundtrip F d s f hs hf
end S
