/-! toy of the C14 state machine: provenance of answers, core-only -/
namespace H
structure St where
  trs    : List Nat      -- fit id that created each per-item transformer, in list order
  nItems : Nat           -- n_data of the most recent fit
  result : Option Nat    -- fit id whose decomposition is stored in `data`
  unseen : Option Nat    -- transform-call id whose coordinates are cached
deriving DecidableEq, Repr

inductive Op | fit (id items : Nat) | transform (id : Nat) | query
deriving DecidableEq, Repr

def init : St := ⟨[], 0, none, none⟩

/-- provenance of an answer: fit ids of the transformers actually used (first `nItems`, as `zip` does)
    plus the fit id of the stored result -/
def prov (s : St) : List Nat := (s.trs.take s.nItems) ++ s.result.toList

def step (resets : Bool) (s : St) : Op → St × List Nat
  | .fit id n =>
      let trs := (if resets then [] else s.trs) ++ List.replicate n id
      let s' := { s with trs := trs, nItems := n, result := some id }
      (s', [])
  | .transform id => ({ s with unseen := some id }, prov s)
  | .query => (s, prov s)

def run (resets : Bool) (s : St) : List Op → St × List (List Nat)
  | [] => (s, [])
  | op :: ops =>
      let (s', o) := step resets s op
      let (s'', os) := run resets s' ops
      (s'', o :: os)

def noFit : List Op → Bool
  | [] => true
  | .fit _ _ :: _ => false
  | _ :: t => noFit t

theorem prov_after_fit (s : St) (id n : Nat) :
    prov (step true s (.fit id n)).1 = List.replicate n id ++ [id] := by
  simp [step, prov]

theorem nonfit_preserves (s : St) (op : Op) (h : ∀ id n, op ≠ .fit id n) :
    prov (step true s op).1 = prov s := by
  cases op with
  | fit id n => exact absurd rfl (h id n)
  | transform id => rfl
  | query => rfl

/-- a history without a fit answers every time with the provenance of the state it starts from -/
theorem run_nofit_outputs (s : St) (post : List Op) (hpost : noFit post = true) :
    ∀ o ∈ (run true s post).2, o = prov s := by
  induction post generalizing s with
  | nil => intro o ho; cases ho
  | cons op ops ih =>
    cases op with
    | fit id n => cases hpost
    | transform id | query =>
      -- by computation: such a step answers `prov s` and hands on a state with the same `prov`
      intro o ho
      rcases List.mem_cons.mp ho with rfl | ho
      · rfl
      · exact (ih _ hpost o ho).trans rfl

/-- every answer given after the last fit has exactly that fit's provenance, whatever came before -/
theorem last_fit_determines (pre post : List Op) (id n : Nat) (hpost : noFit post = true) (s0 : St) :
    ∀ o ∈ (run true (run true s0 (pre ++ [.fit id n])).1 post).2, o = List.replicate n id ++ [id] := by
  induction pre generalizing s0 with
  | nil =>
    intro o ho
    rw [run_nofit_outputs _ post hpost o ho]
    exact prov_after_fit s0 id n
  | cons op ops ih => exact ih _

/-- with the appending code (resets = false) the property is false: concrete two-fit history -/
example : (run false init [.fit 1 1, .fit 2 1, .query]).2 = [[], [], [1, 2]] := by decide
example : (run true  init [.fit 1 1, .fit 2 1, .query]).2 = [[], [], [2, 2]] := by decide
end H
