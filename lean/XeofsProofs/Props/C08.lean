import XeofsProofs.Bridge
import XeofsProofs.Lemmas.ScalerAlg
import XeofsProofs.Lemmas.ScalerModel
import XeofsProofs.Lemmas.Scale
import XeofsModel.Scaler
import XeofsModel.Generated.Facts
import Mathlib.Analysis.SpecialFunctions.Trigonometric.Basic
/-!
# C08 — centring, standardisation, weights, coslat and global scale mean exactly what the options say
-/
open XM Matrix
namespace C08

variable {𝕜 : Type} [RCLike 𝕜] {n p r : ℕ}

/-- **center_shift_invariant**: with centring on, adding a constant to a feature does not change its anomalies -/
theorem center_shift_invariant (hn : 0 < n) (x : Fin n → 𝕜) (c : 𝕜) (t : Fin n) :
    (x t + c) - XP.Scaler.cmean (fun t => x t + c) = x t - XP.Scaler.cmean x :=
  XP.Scaler.center_shift_invariant hn x c t

/-- **standardize_affine_invariant**: with standardisation on, a positive affine rescaling of a feature changes nothing
(standard deviation above the clip floor on both sides, i.e. non-zero) -/
theorem standardize_affine_invariant (hn : 0 < n) (x : Fin n → 𝕜) (a : ℝ) (ha : 0 < a) (b : 𝕜)
    (hs : XP.Scaler.cstd0 x ≠ 0) (t : Fin n) :
    (((a : 𝕜) * x t + b) - XP.Scaler.cmean (fun t => (a : 𝕜) * x t + b))
        / ((XP.Scaler.cstd0 (fun t => (a : 𝕜) * x t + b) : ℝ) : 𝕜)
      = (x t - XP.Scaler.cmean x) / ((XP.Scaler.cstd0 x : ℝ) : 𝕜) :=
  XP.Scaler.standardize_affine_invariant hn x a ha b hs t

/-- **weights_eq_premultiplied** (standardisation off): weighting the anomalies = anomalies of the pre-multiplied data -/
theorem weights_eq_premultiplied (hn : 0 < n) (x : Fin n → 𝕜) (w : 𝕜) (t : Fin n) :
    (x t - XP.Scaler.cmean x) * w = (x t * w) - XP.Scaler.cmean (fun t => x t * w) :=
  XP.Scaler.weights_eq_premultiplied hn x w t

/-- in the model (generated operation chain), the weights multiply the centred value -/
theorem model_weights_after_centring (P : ScalerParams 𝕜) (x : 𝕜) :
    scalerTransform ⟨true, false, false⟩ P x = (x - P.mean) * P.weights :=
  XP.ScalerM.scalerTransform_eq _ P x

/-- **coslat_eq_weights**: `use_coslat` is the same operation as user weights, with the coslat field as operand -/
theorem coslat_eq_weights (P : ScalerParams 𝕜) (x : 𝕜) (c : 𝕜) :
    scalerTransform ⟨true, false, true⟩ { P with coslat := c, weights := 1 } x
      = scalerTransform ⟨true, false, false⟩ { P with weights := c } x := by
  rw [XP.ScalerM.scalerTransform_eq, XP.ScalerM.scalerTransform_eq]
  exact mul_one _

/-- **global_scale**: an SVD of `c • X` is obtained from one of `X` by scaling `U` with the unit scalar `c/|c|` and the
singular values with `|c|`; `V` (the components) is unchanged — hence scores × c, singular values × |c|, explained
variance × |c|², all fractions unchanged -/
theorem global_scale {X : Matrix (Fin n) (Fin p) 𝕜} {U : Matrix (Fin n) (Fin r) 𝕜} {s : Fin r → ℝ}
    {V : Matrix (Fin p) (Fin r) 𝕜} (h : XP.Scale.IsSVD X U s V) (c : 𝕜) (hc : c ≠ 0) :
    XP.Scale.IsSVD (c • X) ((c / (‖c‖ : 𝕜)) • U) (fun i => ‖c‖ * s i) V :=
  XP.Scale.svd_global_scale h c hc

/-- the explained variance formula is homogeneous of degree two in the singular value -/
theorem expvar_scale (s c nn : ℝ) : Gen.eofExpVar (c * s) nn = c ^ 2 * Gen.eofExpVar s nn := by
  unfold Gen.eofExpVar
  rw [mul_mul_mul_comm, ← pow_two, mul_div_assoc]

/-- … and the ratio is invariant -/
theorem ratio_scale (e t c : ℝ) (hc : c ≠ 0) : Gen.eofExpVarRatio (c * e) (c * t) = Gen.eofExpVarRatio e t :=
  mul_div_mul_left e t hc

/-- source obligations: each cross-set field gets ITS OWN preprocessing options -/
theorem src_cross_fields_get_own_options :
    (Gen.crossPreprocessor1.lookup "with_std" = some "standardize[0]" ∧ Gen.crossPreprocessor2.lookup "with_std" = some "standardize[1]") ∧
    (Gen.crossPreprocessor1.lookup "with_center" = some "center[0]" ∧ Gen.crossPreprocessor2.lookup "with_center" = some "center[1]") ∧
    (Gen.crossPreprocessor1.lookup "with_coslat" = some "use_coslat[0]" ∧ Gen.crossPreprocessor2.lookup "with_coslat" = some "use_coslat[1]") :=
  ⟨⟨rfl, rfl⟩, ⟨rfl, rfl⟩, ⟨rfl, rfl⟩⟩

/-- the standard deviation is the population one (ddof 0) and is stored clipped, so forward and inverse use one value -/
theorem src_std_clip_stored : Gen.scalerStdDdof = 0 ∧ Gen.scalerStdClipIsStored = true := ⟨rfl, rfl⟩

/-- **standardize_unit_invariant_above_floor**: re-expressing a feature in other units (`x ↦ c·x`, `c > 0`) leaves the
standardised value unchanged as long as the deviation stays above the (absolute, source) floor `f` in both units — the
restriction the property itself makes. Below the floor the feature is treated as constant and the invariance is NOT claimed. -/
theorem standardize_unit_invariant_above_floor (x μ σ f c : ℝ) (hc : 0 < c) (h1 : f ≤ σ) (h2 : f ≤ c * σ) :
    (c * x - c * μ) / max (c * σ) f = (x - μ) / max σ f := by
  rw [max_eq_left h2, max_eq_left h1, ← mul_sub, mul_div_mul_left _ _ hc.ne']

/-- the hypotheses are satisfiable and the conclusion is not trivial -/
example : ((2 : ℝ) * 3 - 2 * 1) / max (2 * 4) (1 / 8) = (3 - 1) / max 4 (1 / 8) :=
  standardize_unit_invariant_above_floor 3 1 4 (1 / 8) 2 (by norm_num) (by norm_num) (by norm_num)

theorem src_std_floor_absolute : Gen.scalerStdFloorIsAbsolute = true := rfl

/-- **latitude weights are strictly positive away from the poles and never negative**: `sqrt(clip(cos φ, 0, 1))` with the source's
formula; at the poles the exact value is 0 and the floating-point value a tiny positive number, so weighting stays invertible
exactly where `cos φ > 0` -/
theorem coslat_weight_pos (φ : ℝ) (h : φ ∈ Set.Ioo (-(Real.pi / 2)) (Real.pi / 2)) :
    0 < Gen.coslatWeightOfCos (Real.cos φ) (max 0 (min (Real.cos φ) 1)) :=
  Real.sqrt_pos.mpr (lt_max_of_lt_right (lt_min (Real.cos_pos_of_mem_Ioo h) one_pos))

theorem coslat_weight_nonneg (c : ℝ) : 0 ≤ Gen.coslatWeightOfCos c (max 0 (min c 1)) :=
  Real.sqrt_nonneg _

theorem src_coslat_formula : Gen.coslatWeightIsSqrtOfClippedCos = true ∧ Gen.coslatClipBounds = (0, 1) := ⟨rfl, rfl⟩

/-- source obligation: user weights enter exactly as given (no clipping, no normalisation) -/
theorem src_weights_used_as_given : Gen.scalerWeightsUsedAsGiven = true := rfl

end C08
