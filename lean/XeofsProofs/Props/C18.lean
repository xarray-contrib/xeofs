import XeofsProofs.Bridge
import XeofsProofs.Lemmas.Misc13
import XeofsProofs.Props.C11
import XeofsProofs.Lemmas.PopModel
/-!
# C18 — POP modes are eigen-pairs of the lag-1 feedback matrix

`np.linalg.eig` and `np.linalg.inv` are oracles with their specification (`A *ᵥ v = λ • v`, `C₀ * G = 1`).
-/
open Matrix
namespace C18

variable {𝕜 : Type} [RCLike 𝕜] {n p k : ℕ}

/-- **pop_eigenpair** survives the two things xeofs does to an eigenvector afterwards: scaling by the coefficient
norm (`components()` returns `p · norm`) and mapping through the PCA basis (`V`, orthonormal columns): if `A p = λ p` in PC
space then `(V A Vᴴ)(V p c) = λ (V p c)` in feature space -/
theorem pop_eigenpair_back_projected (A : Matrix (Fin k) (Fin k) 𝕜) (V : Matrix (Fin p) (Fin k) 𝕜) (hV : Vᴴ * V = 1)
    (v : Fin k → 𝕜) (lam c : 𝕜) (h : A *ᵥ v = lam • v) :
    (V * A * Vᴴ) *ᵥ (V *ᵥ (c • v)) = lam • (V *ᵥ (c • v)) := by
  rw [Matrix.mulVec_mulVec, Matrix.mul_assoc, Matrix.mul_assoc, hV, Matrix.mul_one, ← Matrix.mulVec_mulVec,
    Matrix.mulVec_smul, h, smul_comm, Matrix.mulVec_smul]

/-- **pop_conjugate_pairs**: for real data (`A` real) the conjugate of an eigen-pair is an eigen-pair -/
theorem pop_conjugate_pairs (A : Matrix (Fin p) (Fin p) ℂ) (hA : A.map (starRingEnd ℂ) = A)
    (v : Fin p → ℂ) (lam : ℂ) (h : A *ᵥ v = lam • v) :
    A *ᵥ (fun i => starRingEnd ℂ (v i)) = (starRingEnd ℂ lam) • (fun i => starRingEnd ℂ (v i)) :=
  XP.M13.pop_conjugate_pair A hA v lam h

/-- **tau_T_formulas** (generated): damping time `−1/log|λ|`, period `2π/arg λ` -/
theorem tau_formula (a : ℝ) : Gen.popDampingTime a = -1 / Real.log a := by
  rw [Gen.popDampingTime, Num.log_real, Num.ofNat_real, Nat.cast_one]

theorem period_formula (twoPi arg : ℝ) : Gen.popPeriod twoPi arg = twoPi / arg := by
  simp [Gen.popPeriod]

/-- a real positive eigenvalue (`arg λ = 0`) has an infinite period: in exact arithmetic the quotient degenerates
(`x / 0 = 0` in Lean, `inf` in IEEE) — the driver reproduces the IEEE value, checked by correspondence -/
theorem period_real_eigenvalue (twoPi : ℝ) : Gen.popPeriod twoPi 0 = 0 := by simp [Gen.popPeriod]

/-- **noise_free_recovery**: if the data follow `x_{t+1} = A x_t` exactly and the lag-0 covariance is invertible, the
estimated feedback matrix IS `A` — hence its eigenvalues, periods and damping times are the true ones -/
theorem noise_free_recovery (X0 X1 : Matrix (Fin n) (Fin p) 𝕜) (A G : Matrix (Fin p) (Fin p) 𝕜)
    (hG : (X0ᴴ * X0) * G = 1) (hdyn : X1 = X0 * Aᴴ) :
    X1ᴴ * X0 * G = A :=
  XP.M13.noise_free_recovery X0 X1 A G hG hdyn

/-- **pop_sorted_by_std**: ordering by descending standard deviation (source obligation + the sort lemma of C11) -/
theorem src_ordered_by_descending_std : Gen.popOrderedByDescendingStd = true ∧ Gen.popFitResetsSorted = true := ⟨rfl, rfl⟩

theorem sorted_descending (sd : List ℝ) :
    (sd.mergeSort (fun a b => decide (b ≤ a))).Pairwise (fun a b => b ≤ a) := (C11.rot_sorted sd).1

/-! ### on the executable model (`XM.popFeedback`, `XM.popFit` — run by the driver at complex doubles next to `POP.fit`) -/

/-- the model's feedback matrix solves the normal equations of the lag-1 regression: `A (X0ᴴX0) = X1ᴴX0` -/
theorem model_feedback_normal_equations {n p : ℕ} (X : XM.Mat n p 𝕜) (Cinv : XM.Mat p p 𝕜)
    (hC : Cinv.toMatrix * (XM.lagZeroGram X).toMatrix = 1) :
    (XM.popFeedback X Cinv).toMatrix * (XM.lagZeroGram X).toMatrix = (XM.lagOneGram X).toMatrix := by
  rw [XM.popFeedback, toMatrix_mul, Matrix.mul_assoc, hC, Matrix.mul_one]

/-- every eigen-pair of the model's feedback matrix is an eigen-pair of "lag-1 covariance times inverse lag-0 covariance" -/
theorem model_eigenpair_is_pop {n p : ℕ} (X : XM.Mat n p 𝕜) (Cinv : XM.Mat p p 𝕜) (v : Fin p → 𝕜) (lam : 𝕜)
    (h : (XM.popFeedback X Cinv).toMatrix.mulVec v = lam • v) :
    ((XM.lagOneGram X).toMatrix * Cinv.toMatrix).mulVec v = lam • v := by
  rwa [XM.popFeedback, toMatrix_mul] at h

/-- damping times and periods of the model are `-1/log|λ|` and `2π/arg λ` of the mode they are reported for (after sorting) -/
theorem model_damping_and_period {n p k : ℕ} (X : XM.Mat n p 𝕜) (lam : Fin k → 𝕜) (argLam : Fin k → ℝ) (twoPi : ℝ) (P : XM.Mat p k 𝕜)
    (Minv : Fin k → ℝ × ℝ × ℝ × ℝ) (perm : Fin k → Fin k) (j : Fin k) :
    (XM.popFit X lam argLam twoPi P Minv perm).damping j = -1 / Real.log ‖lam (perm j)‖ ∧
    (XM.popFit X lam argLam twoPi P Minv perm).periods j = twoPi / argLam (perm j) ∧
    (XM.popFit X lam argLam twoPi P Minv perm).eigenvalues j = lam (perm j) := by
  refine ⟨?_, rfl, rfl⟩
  show Gen.popDampingTime (Real.sqrt (RCLike.normSq (lam (perm j)))) = _
  rw [RCLike.sqrt_normSq_eq_norm, tau_formula]

end C18
