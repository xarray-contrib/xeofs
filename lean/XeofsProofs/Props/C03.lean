import XeofsModel.Frame
import XeofsModel.Scaler
import XeofsProofs.Lemmas.EofModel
import XeofsProofs.Lemmas.CpccaModel
import XeofsProofs.Lemmas.ScalerModel
import XeofsProofs.Lemmas.ScalerAlg
import XeofsProofs.Lemmas.Small
import XeofsProofs.Props.C01
import XeofsModel.Generated.Facts
import XeofsModel.Generated.Formulas
/-!
# C03 — full-mode inverse_transform restores the data; transform ∘ inverse_transform = id; `normalized`
-/
open XM Matrix XP.EofM XP.ScalerM
namespace C03

variable {𝕜 : Type} [RCLike 𝕜] {n p k r m : ℕ}

/-- **scaler_inverse_left**: undoing the scaling restores the physical value, for every flag combination, whenever the
divisors (clipped std, coslat weight, user weight) are non-zero. The operation chains are the GENERATED ones. -/
theorem scaler_inverse_left (f : ScalerFlags) (P : ScalerParams 𝕜) (x : 𝕜)
    (hσ : P.std ≠ 0) (hc : P.coslat ≠ 0) (hw : P.weights ≠ 0) :
    scalerInverse f P (scalerTransform f P x) = x := by
  rw [scalerInverse_eq, scalerTransform_eq, mul_div_cancel_right₀ _ hw,
    stepIf_cancel _ (fun x => mul_div_cancel_right₀ x hc), stepIf_cancel _ (fun x => div_mul_cancel₀ x hσ),
    stepIf_cancel _ (fun x => sub_add_cancel x P.mean)]

/-- **scaler_inverse_right**: scaling the un-scaled value gives the scaled value back -/
theorem scaler_inverse_right (f : ScalerFlags) (P : ScalerParams 𝕜) (y : 𝕜)
    (hσ : P.std ≠ 0) (hc : P.coslat ≠ 0) (hw : P.weights ≠ 0) :
    scalerTransform f P (scalerInverse f P y) = y := by
  rw [scalerTransform_eq, scalerInverse_eq, stepIf_cancel _ (fun x => add_sub_cancel_right x P.mean),
    stepIf_cancel _ (fun x => mul_div_cancel_right₀ x hσ), stepIf_cancel _ (fun x => div_mul_cancel₀ x hc),
    div_mul_cancel₀ _ hw]

/-- **eof_full_reconstruction**: with all modes kept the reconstruction from the model's own scores is the decomposed
matrix -/
theorem eof_full_reconstruction (X : Mat n p 𝕜) (U : Mat n r 𝕜) (s : Fin r → ℝ) (V : Mat p r 𝕜) (sgn : Fin r → ℝ)
    (h : XP.SVD.IsSVD X.toMatrix U.toMatrix s V.toMatrix) (hsgn : ∀ j, sgn j * sgn j = 1) :
    (eofInverse (eofFit (le_refl r) (le_refl r) (le_refl r) U s V sgn)
        (eofFit (le_refl r) (le_refl r) (le_refl r) U s V sgn).scores).toMatrix = X.toMatrix := by
  rw [C01.model_reconstruction (le_refl r) U s V sgn hsgn, h.hX]
  rfl

/-- **transform_inverse_id**: for ARBITRARY score arrays `S` (any number of rows = any sample labels),
`transform (inverse_transform S) = S` -/
theorem transform_inverse_id (hk : k ≤ r) (U : Mat n r 𝕜) (s : Fin r → ℝ) (V : Mat p r 𝕜) (sgn : Fin k → ℝ)
    (hV : V.toMatrixᴴ * V.toMatrix = 1) (hsgn : ∀ j, sgn j * sgn j = 1) (S : Mat m k 𝕜) :
    (eofTransform (eofFit hk hk hk U s V sgn) (eofInverse (eofFit hk hk hk U s V sgn) S)).toMatrix = S.toMatrix := by
  rw [eofTransform, eofInverse, toMatrix_mul, toMatrix_mul, toMatrix_conjT, Matrix.mul_assoc,
    C01.components_orthonormal hk U s V sgn hV hsgn, Matrix.mul_one]

/-- **normalized_switch**: dividing the scores by the norms and multiplying them back is the identity (norms are the
singular values, non-zero for the retained modes) -/
theorem normalized_switch (S : Mat m k 𝕜) (c : Fin k → ℝ) (hc : ∀ j, c j ≠ 0) :
    (scaleModes (scaleModes S (fun j => (c j)⁻¹)) c).toMatrix = S.toMatrix := by
  rw [scaleModes, scaleModes, toMatrix_scaleCols_ofReal, toMatrix_scaleCols_ofReal, Matrix.mul_assoc, rdiag_mul,
    funext fun j => inv_mul_cancel₀ (hc j), rdiag]
  simp only [RCLike.ofReal_one, diagonal_one, Matrix.mul_one]

/-- … and a normalised reconstruction equals the plain one: `(S / norms) * norms` projected back -/
theorem normalized_inverse (hk : k ≤ r) (U : Mat n r 𝕜) (s : Fin r → ℝ) (V : Mat p r 𝕜) (sgn : Fin k → ℝ)
    (S : Mat m k 𝕜) (c : Fin k → ℝ) (hc : ∀ j, c j ≠ 0) :
    (eofInverse (eofFit hk hk hk U s V sgn) (scaleModes (scaleModes S (fun j => (c j)⁻¹)) c)).toMatrix
      = (eofInverse (eofFit hk hk hk U s V sgn) S).toMatrix := by
  simp only [eofInverse, toMatrix_mul]
  rw [normalized_switch S c hc]

/-- **cpcca_full_reconstruction**: un-whitening, un-PCA and re-projection restore a field whose feature count does
not exceed the number of modes (`Q Qᴴ = 1`) -/
theorem cpcca_full_reconstruction (X : Matrix (Fin n) (Fin p) 𝕜) (V : Matrix (Fin p) (Fin r) 𝕜)
    (T Tinv Q : Matrix (Fin r) (Fin r) 𝕜) (hXV : X * V * Vᴴ = X) (hT : T * Tinv = 1) (hQ : Q * Qᴴ = 1) :
    ((X * V * T) * Q) * Qᴴ * Tinv * Vᴴ = X :=
  XP.Small.cpcca_full_reconstruction X V T Tinv Q hXV hT hQ

-- the source applies the operations in this order (a swapped pair of multiplications would be harmless, a misplaced
-- mean would break `scaler_inverse_left` above)
example : Gen.scalerForward.map (·.1) = ["sub", "div", "mul", "mul"] ∧ Gen.scalerInverse.map (·.1) = ["div", "div", "mul", "add"] := by
  decide

-- non-vacuity
example : scalerInverse ⟨true, true, true⟩ (⟨3, 2, 5, 7⟩ : ScalerParams ℝ) (scalerTransform ⟨true, true, true⟩ ⟨3, 2, 5, 7⟩ 11) = 11 :=
  scaler_inverse_left _ _ _ (by norm_num) (by norm_num) (by norm_num)

/-- source obligations for the cross-set reconstruction: data leave the whitened space through `Tinv` itself (no conjugate), and
the PC space through `Vᴴ`, the adjoint of the map `V` that took them in -/
theorem src_unwhiten_uses_Tinv : Gen.whitenerInverseDataUsesTinv = true := rfl
theorem src_pca_inverse_is_adjoint : Gen.pcaTransformUsesV = true ∧ Gen.pcaInverseDataUsesConjTranspose = true := ⟨rfl, rfl⟩

/-- **cpcca_full_reconstruction on the executable model**: a field whose feature count equals the number of modes (square,
unitary `Q1`) is restored exactly by `inverse ∘ scores`, whatever the signs -/
theorem model_cpcca_full_reconstruction {n p q : ℕ} (X : XM.Mat n p 𝕜) (Y : XM.Mat n q 𝕜) (Q1 : XM.Mat p p 𝕜) (s : Fin p → ℝ)
    (Q2 : XM.Mat q p 𝕜) (sgn : Fin p → ℝ) (hsgn : ∀ j, sgn j * sgn j = 1) (hQ : Q1.toMatrix * (Q1.toMatrix)ᴴ = 1) :
    (XM.cpccaInverse1 (XM.cpccaFit (le_refl p) X Y Q1 s Q2 sgn) (XM.cpccaFit (le_refl p) X Y Q1 s Q2 sgn).scores1).toMatrix
      = X.toMatrix := by
  have hid : Q1.toMatrix.submatrix id (Fin.castLE (le_refl p)) = Q1.toMatrix := rfl
  rw [XM.cpccaInverse1, toMatrix_mul, toMatrix_conjT, XP.CpccaM.scores1_toMatrix, XP.CpccaM.comps1_toMatrix, hid,
    Matrix.mul_assoc, mul_mul_conjTranspose, rdiag_conjTranspose, rdiag_one_of_sq sgn hsgn, Matrix.mul_one, hQ, Matrix.mul_one]

/-- source obligations: the two score arrays given to a cross-set `inverse_transform` are never aligned with each other, and the
`normalized` switch of `transform` divides by the norms stored at fit -/
theorem src_fields_not_aligned_and_fitted_norms :
    Gen.crossInverseAlignCalls = [] ∧ Gen.singleTransformNormalizedBody.head? = some "data2D = data2D / self.data['norms']" :=
  ⟨rfl, rfl⟩

/-- **structure level (S.Frame, tied by the `frame` correspondence)**: the labelled data `inverse_transform` hands back (every value
at its own label, in whatever order the labels come back) is projected by `transform` onto the fitted positional matrix again: the
feature labels are looked up in the FITTED order, so `transform ∘ inverse_transform` is the identity at the structure level for
sorted, descending and unsorted coordinates alike -/
theorem frame_transform_of_reconstruction {α} (F : S.Frame α) (d : α) :
    S.transformBy F.cols F.rows (S.readBack F.rows F.cols F.toMat d) = F.toMat :=
  S.transformBy_readBack F d

/-- … and the order in which the NEW data carries its feature labels is irrelevant: `transformBy` never consults it -/
theorem frame_transform_label_order_irrelevant {α} (F : S.Frame α) (cols' : List S.Key) :
    S.transformBy F.cols F.rows ({ F with cols := cols' } : S.Frame α).val = F.toMat := rfl

/-- source obligations: `Stacker.transform` aligns the feature labels with the fitted ones by label BEFORE comparing them, and a
Dataset is stacked in one dimension order (sample, fitted feature dimensions) whatever order its variables are stored in — the two
facts that make the implementation's `transform` the label-based `S.transformBy` -/
theorem src_transform_is_label_based :
    Gen.stackerTransformSteps = ["self._validate_transform_dimensions", "self._align_feature_coords",
      "self._validate_transform_feature_coords", "self._stack"] ∧
    Gen.stackerAlignSelections = ["X.sel({dim: fitted.values})"] ∧
    Gen.stackerDatasetArm = ["X = X.transpose(sample_name, *feature_dims)",
      "X = X.to_stacked_array(new_dim=feature_name, sample_dims=(self.sample_name,))"] := ⟨rfl, rfl, rfl⟩

end C03
