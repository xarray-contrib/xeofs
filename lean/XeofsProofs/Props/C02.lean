import XeofsModel.Frame
import XeofsModel.Generated.Facts
import Mathlib.Data.List.ProdSigma
import Mathlib.Data.List.Nodup
import Mathlib.Data.List.Perm.Basic
import XeofsModel.Generated.Formulas
/-!
# C02 — outputs keep the input's structure and attach every value to its own label

`S.Frame` is the labelled 2-D frame (row keys = stacked sample labels, column keys = stacked feature labels); the
positional matrix `toMat` is what the numerical core sees; results are re-labelled by `readBack`.
The semantics of the xarray operations xeofs delegates to (`stack`, `to_stacked_array`, `unstack`, `reindex`, `concat`)
are idealised here and validated only through the real pipeline by the correspondence runs.
-/
namespace C02
open S

/-- **roundtrip_data**: reading the positional matrix back by labels returns the input value at every label -/
theorem roundtrip_data {α} (F : Frame α) (d : α) (s f : Key) (hs : s ∈ F.rows) (hf : f ∈ F.cols) :
    readBack F.rows F.cols F.toMat d s f = F.val s f :=
  S.roundtrip F d s f hs hf

/-- **frame_shape**: the matrix has one row per sample key and one column per feature key -/
theorem frame_shape {α} (F : Frame α) : F.toMat.length = F.rows.length ∧ ∀ r ∈ F.toMat, r.length = F.cols.length := by
  constructor
  · simp [Frame.toMat]
  · intro r hr; simp only [Frame.toMat, List.mem_map] at hr; obtain ⟨_, _, rfl⟩ := hr; simp

/-- **frame_bijective**: stacking several dimensions (row-major product of their label lists) yields distinct keys when
the labels of each dimension are distinct, and as many keys as the product of the sizes — cells ↔ matrix entries is a
bijection keyed by labels -/
theorem stack_keys_nodup (a b : List Label) (ha : a.Nodup) (hb : b.Nodup) :
    (a.product b).Nodup ∧ (a.product b).length = a.length * b.length :=
  ⟨List.Nodup.product ha hb, List.length_product a b⟩

/-- **split_concat**: the concatenated feature axis is split back at the recorded sizes -/
theorem split_concat {α} (x y : List α) : (x ++ y).take x.length = x ∧ (x ++ y).drop x.length = y := by simp

theorem split_concat_three {α} (x y z : List α) :
    (x ++ y ++ z).take x.length = x ∧ ((x ++ y ++ z).drop x.length).take y.length = y ∧
    (x ++ y ++ z).drop (x.length + y.length) = z := by
  refine ⟨by simp [List.append_assoc], by simp [List.append_assoc], ?_⟩
  rw [← List.drop_drop]; simp [List.append_assoc]

/-- **unstack_sorted**: un-stacking returns the labels of a dimension sorted — the same SET of labels, which is the permitted
re-ordering -/
theorem unstack_sorted (labels : List String) :
    (labels.mergeSort (fun a b => decide (a ≤ b))).Perm labels := List.mergeSort_perm labels _

/-- … and the re-ordering of labels does not move any value: reading by label ignores positions -/
theorem relabel_order_irrelevant {α} (F : Frame α) (rows' cols' : List Key) (d : α) (s f : Key)
    (hs : s ∈ rows') (hf : f ∈ cols') :
    readBack rows' cols' ({ F with rows := rows', cols := cols' } : Frame α).toMat d s f = F.val s f :=
  S.roundtrip { F with rows := rows', cols := cols' } d s f hs hf

/-- **components_structure / scores_structure**: a result that keeps only one side's keys (components: feature keys +
mode, scores: sample keys + mode) is re-labelled with exactly those keys -/
theorem one_sided_structure {α} (keys : List Key) (modes : List Key) (val : Key → Key → α) (d : α) (kf m : Key)
    (hk : kf ∈ keys) (hm : m ∈ modes) :
    readBack keys modes ({ rows := keys, cols := modes, val := val } : Frame α).toMat d kf m = val kf m :=
  S.roundtrip ({ rows := keys, cols := modes, val := val } : Frame α) d kf m hk hm

/-- source obligations: list elements are aligned by sample LABEL when concatenated (no positional override), and the
generic dimension names are assigned to the sample dimensions first, in the order the user gave -/
theorem src_concat_aligns_by_label : Gen.concatenatorConcatKwargs = [("dim", "self.feature_name")] := rfl

theorem src_renamer_names_sample_dims_first :
    Gen.renamerOrderedDims = "[*sample_dims, *[d for d in X.dims if d not in sample_dims]]" := rfl

-- non-vacuity: a 2×2 frame
example : readBack [["t0"], ["t1"]] [["a"], ["b"]]
    ({ rows := [["t0"], ["t1"]], cols := [["a"], ["b"]], val := fun s f => s ++ f } : Frame Key).toMat [] ["t1"] ["a"] = ["t1", "a"] := by
  decide

/-- source obligation: the latitude weight is `sqrt(clip(cos φ, 0, 1))`, with nothing snapped to zero — weighting and un-weighting
are inverse to each other at every latitude whose cosine is representable as a positive number -/
theorem src_coslat_formula : Gen.coslatWeightIsSqrtOfClippedCos = true := rfl

/-- source obligations: the sample coordinates remembered at fit time and those of later transforms are kept apart, and the way
back for fitted results reads the fit-time record — a later `transform` cannot re-label `scores()` -/
theorem src_fit_labels_kept_apart :
    Gen.multiIndexDictsSeparate = true ∧ Gen.multiIndexInverseReadsChosenReference = true := ⟨rfl, rfl⟩

/-- source obligations: results of the fit (scores, data, components) are brought back with the record written at FIT time, only
unseen data with the record of the last transform; and a reconstruction for Dataset input gets every squeezed non-feature
dimension back (not only `mode`) -/
theorem src_inverse_paths_read_the_fit_record :
    Gen.multiIndexInverseReferences.lookup "inverse_transform_scores" = some "self._inverse_transform(X, reference='fit')" ∧
    Gen.multiIndexInverseReferences.lookup "inverse_transform_data" = some "self._inverse_transform(X, reference='fit')" ∧
    Gen.multiIndexInverseReferences.lookup "inverse_transform_components" = some "self._inverse_transform(X, reference='fit')" ∧
    Gen.multiIndexInverseReferences.lookup "inverse_transform_scores_unseen" = some "self._inverse_transform(X, reference='transform')" :=
  ⟨rfl, rfl, rfl, rfl⟩

theorem src_every_squeezed_dimension_restored :
    Gen.stackerRestoreSqueezedBody.head? =
      some "for dim in X.dims:     if dim != self.feature_name and dim not in ds.dims:         ds = ds.expand_dims({dim: X.coords[dim].values})" :=
  rfl

end C02
