import XeofsProofs.Bridge
import XeofsProofs.Lemmas.Small
import XeofsProofs.Props.C01
import XeofsProofs.Props.C04
import XeofsModel.Generated.Facts
import XeofsProofs.Lemmas.BootModel
/-!
# C20 — bootstrap members are sign-aligned, reproducible EOF analyses of resamples

A member is `eofFit` of the SVD of a resampled (and re-centred) matrix; the resampling indices are the answer of numpy's
seeded generator (an oracle: a function of the seed), so reproducibility holds by construction in the model.
PARTIAL: "to solver accuracy" for members computed with the randomised solver is a runtime matter.
-/
open XM Matrix
namespace C20

variable {𝕜 : Type} [RCLike 𝕜] {n p k r : ℕ}

/-- resampling with replacement: row `t` of the member's data is row `idx t` of the model's preprocessed matrix -/
def resample {n p : ℕ} (X : Matrix (Fin n) (Fin p) 𝕜) (idx : Fin n → Fin n) : Matrix (Fin n) (Fin p) 𝕜 :=
  X.submatrix idx id

/-- **member = EOF of the resample**: every C01 statement holds for the member (orthonormal components, …) because a
member is the same algorithm run on another matrix -/
theorem member_components_orthonormal (hk : k ≤ r) (U : Mat n r 𝕜) (s : Fin r → ℝ) (V : Mat p r 𝕜) (sgn : Fin k → ℝ)
    (hV : V.toMatrixᴴ * V.toMatrix = 1) (hsgn : ∀ j, sgn j * sgn j = 1) :
    (eofFit hk hk hk U s V sgn).comps.toMatrixᴴ * (eofFit hk hk hk U s V sgn).comps.toMatrix = 1 :=
  C01.components_orthonormal hk U s V sgn hV hsgn

/-- variances are non-negative and descending (from the SVD specification) -/
theorem member_variances (hk : k ≤ r) (U : Mat n r 𝕜) (s : Fin r → ℝ) (V : Mat p r 𝕜) (sgn : Fin k → ℝ)
    (hs0 : ∀ i, 0 ≤ s i) (hanti : Antitone s) (hn : 2 ≤ n) :
    (∀ j, 0 ≤ (eofFit hk hk hk U s V sgn).expvar j) ∧
    (∀ i j, i ≤ j → (eofFit hk hk hk U s V sgn).expvar j ≤ (eofFit hk hk hk U s V sgn).expvar i) := by
  have hpos : (0 : ℝ) ≤ (n : ℝ) - 1 := sub_nonneg.mpr (Nat.one_le_cast.mpr (le_trans one_le_two hn))
  refine ⟨fun j => ?_, fun i j hij => ?_⟩
  · rw [C01.expvar_formula]; exact div_nonneg (sq_nonneg _) hpos
  · rw [C01.expvar_formula, C01.expvar_formula]
    exact div_le_div_of_nonneg_right (pow_le_pow_left₀ (hs0 _) (hanti ((Fin.castLE_le_castLE_iff hk).mpr hij)) 2) hpos

/-- **member_scores_are_projection**: the member's scores are the projection of the ORIGINAL samples on its components -/
theorem member_scores_are_projection (hk : k ≤ r) (U : Mat n r 𝕜) (s : Fin r → ℝ) (V : Mat p r 𝕜) (sgn : Fin k → ℝ)
    (Xorig : Mat n p 𝕜) :
    (eofTransform (eofFit hk hk hk U s V sgn) Xorig).toMatrix
      = Xorig.toMatrix * (eofFit hk hk hk U s V sgn).comps.toMatrix := by
  simp [eofTransform]

/-- **sign_aligned**: multiplying a member mode by the sign of its correlation with the model's mode makes that
correlation non-negative -/
theorem sign_aligned (c : ℝ) : 0 ≤ (if 0 < c then 1 else if c < 0 then -1 else (0 : ℝ)) * c :=
  XP.Small.sign_aligned c

/-- source obligations: the per-member EOF is built WITHOUT a second standardisation / coslat weighting and with the
model's own dimension names; the generator is seeded with the seed parameter itself (0 is a seed like any other) -/
theorem src_member_model :
    Gen.bootstrapMemberEOF.lookup "standardize" = some "False" ∧ Gen.bootstrapMemberEOF.lookup "use_coslat" = some "False" ∧
    Gen.bootstrapMemberEOF.lookup "sample_name" = some "sample_name" ∧
    Gen.bootstrapMemberEOF.lookup "feature_name" = some "model.feature_name" ∧
    Gen.bootstrapSeedExpr = "self._params['seed']" := ⟨rfl, rfl, rfl, rfl, rfl⟩

theorem src_no_literal_dimension_names : Gen.literalDimUses = [] := rfl

/-- source obligation: a member's scores are the projection of the ORIGINAL preprocessed samples on the member's components -/
theorem src_member_scores_project_originals :
    Gen.bootstrapMemberScoresExpr = ["bst_model.transform(input_data, normalized=False)"] := rfl

/-! ### on the executable member model `XM.bootMember` (run by the driver next to `EOFBootstrapper.fit`) -/

/-- member components are orthonormal, whatever sign the decomposer chose and whatever the alignment with the model decided -/
theorem model_member_components_orthonormal {n p k r : ℕ} (hk : k ≤ r) (D : XM.Mat n p 𝕜) (idx : Fin n → Fin n) (U : XM.Mat n r 𝕜)
    (s : Fin r → ℝ) (V : XM.Mat p r 𝕜) (sd sa : Fin k → ℝ) (hV : V.toMatrixᴴ * V.toMatrix = 1) (hsd : ∀ j, sd j * sd j = 1)
    (hsa : ∀ j, sa j * sa j = 1) :
    (XM.bootMember hk D idx U s V sd sa).comps.toMatrixᴴ * (XM.bootMember hk D idx U s V sd sa).comps.toMatrix = 1 := by
  rw [XP.BootM.comps_toMatrix]
  exact XP.EofM.orthonormal_mul_rdiag_sgn
    (XP.EofM.orthonormal_mul_rdiag_sgn (submatrix_cols_orthonormal _ _ (Fin.castLE_injective hk) hV) sd hsd) sa hsa

/-- member scores are the projection of the ORIGINAL samples (centred with the resample's mean) on the member's components -/
theorem model_member_scores_are_projection {n p k r : ℕ} (hk : k ≤ r) (D : XM.Mat n p 𝕜) (idx : Fin n → Fin n) (U : XM.Mat n r 𝕜)
    (s : Fin r → ℝ) (V : XM.Mat p r 𝕜) (sd sa : Fin k → ℝ) :
    (XM.bootMember hk D idx U s V sd sa).scores.toMatrix
      = (XM.centreWith D (XM.colMeans (ρ := ℝ) (XM.resample D idx))).toMatrix * (XM.bootMember hk D idx U s V sd sa).comps.toMatrix :=
  XP.BootM.member_scores_are_projection hk D idx U s V sd sa

/-- what is decomposed is a with-replacement resample of the model's own samples (every row is one of its rows), centred -/
theorem model_member_decomposes_centred_resample {n p : ℕ} (D : XM.Mat n p 𝕜) (idx : Fin n → Fin n) (hn : 0 < n) :
    (∀ i j, (XM.resample D idx).toMatrix i j = D.toMatrix (idx i) j) ∧
    (∀ j, ∑ i, (XM.bootDecomposed (ρ := ℝ) D idx).toMatrix i j = 0) := by
  refine ⟨fun i j => by simp [XM.resample], fun j => ?_⟩
  have hne : ((n : ℝ) : 𝕜) ≠ 0 := RCLike.ofReal_ne_zero.mpr (Nat.cast_ne_zero.mpr hn.ne')
  simp only [XM.bootDecomposed, XM.centreWith, toMatrix_apply, XM.Mat.get_ofFn, XM.colMeans, Entry.divReal_eq, sumFin_eq,
    Num.ofNat_real]
  rw [Finset.sum_sub_distrib, Finset.sum_const, Finset.card_univ, Fintype.card_fin, nsmul_eq_mul, ← RCLike.ofReal_natCast,
    mul_div_cancel₀ _ hne, sub_self]

end C20
