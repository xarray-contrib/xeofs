import XeofsModel.Generated.Threshold
import XeofsModel.Generated.Decide
import XeofsProofs.Lemmas.Threshold
import XeofsProofs.Lemmas.Sign
import XeofsModel.Generated.Facts
/-!
# C15 — solver choice, variance thresholds, seeds, sign rule

Every definition in namespace `Gen` is REGENERATED from `/repo` on each run (Tie A); these theorems are re-checked
against what the code says now.
-/
namespace C15
open Py

/-- **threshold_minimal** (Decomposer): with non-decreasing cumulative fractions, the number of modes kept is the
least `m` with `cum[m-1] ≥ f`; if no prefix reaches `f`, all `k` pre-computed modes are kept and the warning flag is
set. -/
theorem threshold_minimal_decomposer (cum : List Int) (f : Int) (h : cum.Pairwise (· ≤ ·)) :
    let r := Gen.nModesRequiredDecomposer cum.length cum f
    (r.2 = true → r.1 = cum.length ∧ ∀ i (hi : i < cum.length), cum[i] < f) ∧
    (r.2 = false → ∃ m : Nat, r.1 = m ∧ 1 ≤ m ∧ m ≤ cum.length ∧
        (∀ i (hi : i < cum.length), i + 1 < m → cum[i] < f) ∧ (∀ hm : m - 1 < cum.length, f ≤ cum[m - 1])) :=
  Thr.threshold_minimal cum f h

/-- the second copy of the block (`_SVD.fit_transform`, used by SVD/PCA/POP and the cross-set models) decides identically -/
theorem threshold_copies_agree (k : Int) (cum : List Int) (f : Int) :
    Gen.nModesRequiredDecomposer k cum f = Gen.nModesRequiredSVD k cum f := by
  have : Gen.nModesRequiredRawDecomposer k cum f = Gen.nModesRequiredRawSVD k cum f := by
    simp only [Gen.nModesRequiredRawDecomposer, Gen.nModesRequiredRawSVD, ge_iff_le] <;> omega
  simp only [Gen.nModesRequiredDecomposer, Gen.nModesRequiredSVD, this]

/-- hence **threshold_minimal** for the SVD wrapper as well -/
theorem threshold_minimal_svd (cum : List Int) (f : Int) (h : cum.Pairwise (· ≤ ·)) :
    let r := Gen.nModesRequiredSVD cum.length cum f
    (r.2 = true → r.1 = cum.length ∧ ∀ i (hi : i < cum.length), cum[i] < f) ∧
    (r.2 = false → ∃ m : Nat, r.1 = m ∧ 1 ≤ m ∧ m ≤ cum.length ∧
        (∀ i (hi : i < cum.length), i + 1 < m → cum[i] < f) ∧ (∀ hm : m - 1 < cum.length, f ≤ cum[m - 1])) := by
  rw [← threshold_copies_agree]; exact Thr.threshold_minimal cum f h

example : Gen.nModesRequiredDecomposer 4 [50, 80, 92, 100] 80 = (2, false) := by decide
example : Gen.nModesRequiredDecomposer 3 [50, 80, 92] 95 = (3, true) := by decide

/-- **auto_selects_two**: whatever the data, the policy answers `exact` or `randomised`, and an unknown solver name is
refused (Decomposer). -/
theorem auto_selects_two_decomposer (solver : String) (small dask : Bool) (nPre rank : Int) :
    (solver = "auto" ∨ solver = "full" ∨ solver = "randomized") ∧
        (∃ b, Gen.useExactDecomposer solver small dask nPre rank = .ok b) ∨
    (solver ≠ "auto" ∧ solver ≠ "full" ∧ solver ≠ "randomized") ∧
        Gen.useExactDecomposer solver small dask nPre rank = .error .ValueError := by
  unfold Gen.useExactDecomposer
  by_cases h1 : solver = "auto"
  · left; simp [h1, pure, Except.pure]
  · by_cases h2 : solver = "full"
    · left; simp [h2, pure, Except.pure]
    · by_cases h3 : solver = "randomized"
      · left; simp [h3, pure, Except.pure]
      · right; simp [h1, h2, h3, Py.raise]

theorem auto_selects_two_svd (solver : String) (small dask : Bool) (nPre rank : Int) :
    (solver = "auto" ∨ solver = "full" ∨ solver = "randomized") ∧
        (∃ b, Gen.useExactSVD solver small dask nPre rank = .ok b) ∨
    (solver ≠ "auto" ∧ solver ≠ "full" ∧ solver ≠ "randomized") ∧
        Gen.useExactSVD solver small dask nPre rank = .error .ValueError := by
  unfold Gen.useExactSVD
  by_cases h1 : solver = "auto"
  · left; simp [h1, pure, Except.pure]
  · by_cases h2 : solver = "full"
    · left; simp [h2, pure, Except.pure]
    · by_cases h3 : solver = "randomized"
      · left; simp [h3, pure, Except.pure]
      · right; simp [h1, h2, h3, Py.raise]

/-- `solver="full"` always means the exact solver, `"randomized"` never -/
theorem full_is_exact (small dask : Bool) (nPre rank : Int) :
    Gen.useExactDecomposer "full" small dask nPre rank = .ok true ∧
    Gen.useExactDecomposer "randomized" small dask nPre rank = .ok false ∧
    Gen.useExactSVD "full" small dask nPre rank = .ok true ∧
    Gen.useExactSVD "randomized" small dask nPre rank = .ok false := by
  simp [Gen.useExactDecomposer, Gen.useExactSVD, pure, Except.pure]

/-- the entry of largest magnitude of a column with maximum `mx` and minimum `mn` (a tie goes to the maximum) -/
def bigEntry (mx mn : Int) : Int := if mn.natAbs > mx.natAbs then mn else mx

/-- **sign_rule_max_abs_positive** (numpy copy): after multiplication with the sign multiplier the entry of largest
magnitude is non-negative, and positive unless the column is zero. -/
theorem sign_rule_numpy (mx mn : Int) (h : mn ≤ mx) :
    0 ≤ Gen.signRuleNumpy mx mn * bigEntry mx mn ∧
    (bigEntry mx mn ≠ 0 → 0 < Gen.signRuleNumpy mx mn * bigEntry mx mn) ∧
    (Gen.signRuleNumpy mx mn = 1 ∨ Gen.signRuleNumpy mx mn = -1) := by
  simp only [Gen.signRuleNumpy, bigEntry, Bool.or_eq_true, decide_eq_true_eq]
  split_ifs <;> omega

/-- … and the xarray copy used by the Decomposer (real data) -/
theorem sign_rule_xarray (mx mn : Int) (h : mn ≤ mx) :
    0 ≤ Gen.signRuleXarray mx mn * bigEntry mx mn ∧
    (bigEntry mx mn ≠ 0 → 0 < Gen.signRuleXarray mx mn * bigEntry mx mn) ∧
    (Gen.signRuleXarray mx mn = 1 ∨ Gen.signRuleXarray mx mn = -1) := by
  simp only [Gen.signRuleXarray, bigEntry, decide_eq_true_eq]
  split_ifs <;> omega

/-- both copies of the rule agree on every column -/
theorem sign_rules_agree (mx mn : Int) (h : mn ≤ mx) : Gen.signRuleNumpy mx mn = Gen.signRuleXarray mx mn := by
  simp only [Gen.signRuleNumpy, Gen.signRuleXarray, Bool.or_eq_true, decide_eq_true_eq]
  split_ifs <;> omega

-- the column whose loadings are all equal and negative (the point the first proof attempt excluded)
example : Gen.signRuleNumpy (-7) (-7) = -1 ∧ Gen.signRuleXarray (-7) (-7) = -1 := by decide
example : Gen.signRuleNumpy 3 (-5) = -1 ∧ Gen.signRuleNumpy 5 (-3) = 1 := by decide

/-- source obligation for seed determinism: every non-exact solver branch of `Decomposer.fit` receives `self.random_state`
unconditionally (a truthiness test would drop the valid seed 0) -/
theorem src_seed_unconditional :
    Gen.decomposerSeedIsConditional = false ∧ Gen.decomposerSeedArgs.all (· == "self.random_state") = true := ⟨rfl, rfl⟩

/-- source obligation: POP hands its `solver_kwargs` to the PCA step -/
theorem src_pop_forwards_solver_kwargs : Gen.popPCA.lookup "solver_kwargs" = some "solver_kwargs" := rfl

/-- source obligations: the exact branch of both wrappers decomposes with `np.linalg.svd` itself (not with a squared-matrix
shortcut), each non-exact branch with its own solver, and the dask branch keeps four power iterations by default -/
theorem src_solver_functions :
    Gen.decomposerSolverFunctions = ["np.linalg.svd", "randomized_svd", "complex_svd", "dask_svd"] ∧
    Gen.svdSolverFunctions = ["np.linalg.svd", "randomized_svd", "complex_svd", "dask_svd"] ∧
    Gen.decomposerDaskDefaults.contains "solver_kwargs.setdefault('n_power_iter', 4)" = true := ⟨rfl, rfl, rfl⟩

end C15
