import XeofsModel.Generated.Decide
import XeofsModel.Generated.Facts
/-!
# C17 — unusable input is rejected with an error, never answered with numbers

The validators are REGENERATED from the source; each clause of the property is a decidable predicate on the call, and the
theorem says the (generated) validator returns an error for it. `valid_accepted` keeps the model from over-rejecting.
-/
namespace C17
open Py

/-- non-positive integer `n_modes` is refused (also `False`, which Python treats as the integer 0) -/
theorem n_modes_nonpositive_rejected (i : Int) (h : i < 1) : Gen.sanityCheckNModes (.int i) = .error .ValueError := by
  simp [Gen.sanityCheckNModes, PyVal.isInt, PyVal.asInt, h, Py.raise]

theorem n_modes_false_rejected : Gen.sanityCheckNModes (.bool false) = .error .ValueError := by rfl

/-- a float outside `(0, 1]` is refused -/
theorem n_modes_float_out_of_range_rejected (q : Int) (h : q ≤ 0 ∨ micro < q) :
    Gen.sanityCheckNModes (.float q) = .error .ValueError := by
  rcases h with h | h <;>
    simp [Gen.sanityCheckNModes, PyVal.isInt, PyVal.isFloat, Py.raise, micro] at * <;> omega

/-- a string other than "all" is refused -/
theorem n_modes_string_rejected (s : String) (h : s ≠ "all") : Gen.sanityCheckNModes (.str s) = .error .ValueError := by
  simp [Gen.sanityCheckNModes, PyVal.isInt, PyVal.isFloat, PyVal.isStr, Py.raise, h]

/-- anything that is not an int, float or string is refused with a TypeError -/
theorem n_modes_non_numeric_rejected :
    Gen.sanityCheckNModes .none = .error .TypeError ∧ Gen.sanityCheckNModes (.list []) = .error .TypeError ∧
    Gen.sanityCheckNModes (.xarr "DataArray") = .error .TypeError := ⟨rfl, rfl, rfl⟩

/-- **valid_accepted**: positive integers, fractions in (0,1] and "all" pass -/
theorem n_modes_valid_accepted (i : Int) (h : 1 ≤ i) : Gen.sanityCheckNModes (.int i) = .ok () := by
  have : ¬ i < 1 := by omega
  simp [Gen.sanityCheckNModes, PyVal.isInt, PyVal.asInt, this, pure, Except.pure]

theorem n_modes_fraction_accepted (q : Int) (h0 : 0 < q) (h1 : q ≤ micro) : Gen.sanityCheckNModes (.float q) = .ok () := by
  have h2 : ¬ (q ≤ 0 ∨ 1000000 < q) := by simp only [micro] at h1; omega
  simp [Gen.sanityCheckNModes, PyVal.isInt, PyVal.isFloat, pure, Except.pure]
  intro h; exact absurd h h2

theorem n_modes_all_accepted : Gen.sanityCheckNModes (.str "all") = .ok () := by rfl

/-- more modes than the rank are refused -/
theorem modes_gt_rank_rejected (nPre rank : Int) (h : rank < nPre) : Gen.rankCheckDecomposer nPre rank = .error .ValueError := by
  simp [Gen.rankCheckDecomposer, h, Py.raise]

theorem modes_le_rank_accepted (nPre rank : Int) (h : nPre ≤ rank) : Gen.rankCheckDecomposer nPre rank = .ok () := by
  have : ¬ rank < nPre := by omega
  simp [Gen.rankCheckDecomposer, this, pure, Except.pure]

/-- non-xarray input is refused: a value is accepted iff it is an xarray object or a list/tuple of them -/
theorem input_type_rejected (v : PyVal) (h1 : v.isXarray = false)
    (h2 : (v.isList || v.isTuple) = false ∨ (v.items.all (·.isXarray)) = false) :
    Gen.validateInputType v = .error .TypeError := by
  unfold Gen.validateInputType
  rcases h2 with h2 | h2
  · simp only [Bool.or_eq_false_iff] at h2; simp [h1, h2.1, h2.2, Py.raise]
  · by_cases hl : (v.isList || v.isTuple) = true
    · simp only [Bool.or_eq_true] at hl
      rcases hl with hl | hl <;> simp [h1, hl, h2, Py.raise]
    · simp only [Bool.not_eq_true, Bool.or_eq_false_iff] at hl; simp [h1, hl.1, hl.2, Py.raise]

example : Gen.validateInputType (.other "ndarray") = .error .TypeError := by rfl
example : Gen.validateInputType (.list [.xarr "DataArray", .other "ndarray"]) = .error .TypeError := by rfl
example : Gen.validateInputType (.list [.xarr "DataArray", .xarr "Dataset"]) = .ok () := by rfl

/-- the sample-dimension argument must be a string or a sequence of strings -/
theorem dim_type_rejected :
    (Gen.convertToDimType (.int 3)).isError = true ∧ (Gen.convertToDimType (.list [.str "time", .int 1])).isError = true ∧
    (Gen.convertToDimType .none).isError = true := ⟨rfl, rfl, rfl⟩

example : (Gen.convertToDimType (.str "time")).isError = false ∧ (Gen.convertToDimType (.tuple [.str "time", .str "lat"])).isError = false := by
  decide

/-- an unknown solver name is refused by both SVD wrappers -/
theorem unknown_solver_rejected (solver : String) (h : solver ≠ "auto" ∧ solver ≠ "full" ∧ solver ≠ "randomized")
    (small dask : Bool) (nPre rank : Int) :
    Gen.useExactDecomposer solver small dask nPre rank = .error .ValueError ∧
    Gen.useExactSVD solver small dask nPre rank = .error .ValueError := by
  simp [Gen.useExactDecomposer, Gen.useExactSVD, h.1, h.2.1, h.2.2, Py.raise]

/-- negative alpha is refused, alpha ≥ 0 (including alpha > 1) is accepted -/
theorem alpha_negative_rejected (q : Int) (h : q < 0) : Gen.whitenerAlphaGuard q = .error .ValueError := by
  simp [Gen.whitenerAlphaGuard, h, Py.raise]

theorem alpha_nonneg_accepted (q : Int) (h : 0 ≤ q) : Gen.whitenerAlphaGuard q = .ok () := by
  have : ¬ q < 0 := by omega
  simp [Gen.whitenerAlphaGuard, this, pure, Except.pure]

/-- transform data with another number of items than the fitted data is refused — shorter AND longer -/
theorem item_count_rejected (lenX nData : Int) (h : lenX ≠ nData) : Gen.transformLengthGuard lenX nData = .error .ValueError := by
  simp [Gen.transformLengthGuard, h, Py.raise]

theorem item_count_accepted (nData : Int) : Gen.transformLengthGuard nData nData = .ok () := by
  simp [Gen.transformLengthGuard, pure, Except.pure]

/-- source obligation: scores naming unknown modes — the normalised inverse selects the norms BY the scores' mode labels
(label-based selection raises KeyError for an unknown label) before multiplying -/
theorem src_inverse_selects_norms_by_label :
    Gen.singleInverseNormalizedBody = ["norms = self.data['norms'].sel(mode=scores.mode)", "scores = scores * norms"] := rfl

/-- source obligations: the reconstruction selects the components by the scores' mode labels (an unknown label raises), and `alpha`
reaches the Whitener's range check unmodified (converted to float only) -/
theorem src_unknown_modes_and_alpha_reach_their_checks :
    Gen.eofInverseCompsExpr = ["self.data['components'].sel(mode=scores.mode)"] ∧
    Gen.crossAlphaAssignments = ["self._process_parameter('alpha', alpha, 1.0)", "[float(a) for a in alpha]"] ∧
    Gen.crossWhitener1.lookup "alpha" = some "alpha[0]" ∧ Gen.crossWhitener2.lookup "alpha" = some "alpha[1]" :=
  ⟨rfl, rfl, rfl, rfl⟩

/-- source obligation: the cross-set reconstruction also selects the components by the scores' mode labels (unknown labels raise) -/
theorem src_cross_unknown_modes_reach_their_check :
    Gen.cpccaInverseCompsExpr = ["self.data['components1'].sel(mode=X.mode)", "self.data['components2'].sel(mode=Y.mode)"] := rfl

/-- a rotator asked for more modes than the model has is refused (single-set and cross-set rotators), before it writes any state;
a request within the model's modes passes (generated from the first statements of both `_fit_algorithm`s) -/
theorem rotator_modes_gt_model_rejected (nModes nModel : Int) (h : nModel < nModes) :
    Gen.rotatorModesGuardSingle nModes nModel = .error .ValueError ∧ Gen.rotatorModesGuardCross nModes nModel = .error .ValueError := by
  simp [Gen.rotatorModesGuardSingle, Gen.rotatorModesGuardCross, h, Py.raise]

theorem rotator_modes_le_model_accepted (nModes nModel : Int) (h : nModes ≤ nModel) :
    Gen.rotatorModesGuardSingle nModes nModel = .ok () ∧ Gen.rotatorModesGuardCross nModes nModel = .ok () := by
  have : ¬ nModel < nModes := by omega
  simp [Gen.rotatorModesGuardSingle, Gen.rotatorModesGuardCross, this, pure, Except.pure]

end C17
