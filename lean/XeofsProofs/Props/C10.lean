import XeofsProofs.Bridge
import XeofsProofs.Lemmas.Whiten
import XeofsProofs.Lemmas.SpecPow
import XeofsModel.Generated.Facts
import XeofsProofs.Lemmas.EeofModel
import XeofsProofs.Lemmas.MccaModel
/-!
# C10 — named methods coincide with the general method at their special parameter values
-/
open Matrix
namespace C10

variable {𝕜 : Type} [RCLike 𝕜] {n p k : ℕ}

/-- **mca_is_cpcca_one**: `alpha = 1` gives the exponent 0 and `C^0 = 1` on a full-rank covariance — the whitener is the
identity, matching the short-circuit for alpha = 1 -/
theorem whitener_identity_at_one (V : Matrix (Fin p) (Fin p) 𝕜) (hV' : V * Vᴴ = 1) (s : Fin p → ℝ) :
    XP.Whiten.specPow V s (Gen.whitenerPower (1 : ℝ)) = 1 := by
  have : Gen.whitenerPower (1 : ℝ) = 0 := by rw [Gen.whitenerPower, Num.ofNat_real, Nat.cast_one, sub_self, zero_div]
  rw [this]; exact XP.Whiten.specPow_zero V hV' s

/-- **cca_is_cpcca_zero**: `alpha = 0` gives the exponent −1/2 (full whitening) -/
theorem whitener_power_at_zero : Gen.whitenerPower (0 : ℝ) = -(1 / 2) := by
  rw [Gen.whitenerPower, Num.ofNat_real, Num.ofNat_real, Nat.cast_one, Nat.cast_ofNat, zero_sub, neg_div]

/-- **mca_self_is_eof**: `(V, d, V)` with `d_i = s_i²/(n−1)` is an SVD of the covariance `XᴴX/(n−1) = V diag(d) Vᴴ`:
MCA of a field with itself has the EOFs as patterns and the explained variances as singular values -/
theorem mca_self_is_eof (V : Matrix (Fin p) (Fin p) 𝕜) (d : Fin p → ℝ) (C : Matrix (Fin p) (Fin p) 𝕜)
    (hV : Vᴴ * V = 1) (hd : Antitone d) (hd0 : ∀ i, 0 ≤ d i)
    (hC : C = V * diagonal (fun i => (d i : 𝕜)) * Vᴴ) :
    Vᴴ * V = 1 ∧ Vᴴ * V = 1 ∧ C = V * diagonal (fun i => (d i : 𝕜)) * Vᴴ ∧ (∀ i, 0 ≤ d i) ∧ Antitone d :=
  XP.SpecPow.mca_self_is_eof V d C hV hd hd0 hC

/-- **complex_on_real**: embedding real data into ℂ commutes with the matrix products of every model -/
theorem complex_on_real (A : Matrix (Fin n) (Fin p) ℝ) (B : Matrix (Fin p) (Fin k) ℝ) :
    (A * B).map (fun x => (x : ℂ)) = A.map (fun x => (x : ℂ)) * B.map (fun x => (x : ℂ)) :=
  Matrix.map_mul (f := Complex.ofRealHom)

/-- **pca_all_modes_is_no_pca**: a unitary change of basis `Q` (all PCs kept) commutes with the spectral power:
whitening the PCs = whitening the features and rotating -/
theorem pca_all_modes_is_no_pca (Q V : Matrix (Fin p) (Fin p) 𝕜) (s : Fin p → ℝ) (a : ℝ) :
    XP.SpecPow.specPow (Qᴴ * V) s a = Qᴴ * XP.SpecPow.specPow V s a * Q :=
  XP.SpecPow.specPow_conj Q V s a

/-- **eeof_single_embedding_is_eof** — the embedding arithmetic (generated): one copy keeps every sample, unshifted -/
theorem eeof_single_embedding (nn tau : ℕ) : Gen.eeofSamplesKept nn 1 tau = nn ∧ Gen.eeofShift 0 tau = 0 :=
  ⟨by rw [Gen.eeofSamplesKept, Nat.sub_self, Nat.zero_mul, Nat.sub_zero], Nat.zero_mul tau⟩

/-- … and the inner EOF runs with the outer centring flag, WITHOUT a second standardisation or weighting, and with the
outer seed, solver options and compute flag (source obligations) -/
theorem src_eeof_inner_flags :
    Gen.eeofInnerEOF.lookup "center" = some "self._params['center']" ∧
    Gen.eeofInnerEOF.lookup "standardize" = some "False" ∧ Gen.eeofInnerEOF.lookup "use_coslat" = some "False" ∧
    Gen.eeofInnerEOF.lookup "random_state" = some "self._params['random_state']" ∧
    Gen.eeofInnerEOF.lookup "compute" = some "self._params['compute']" ∧
    Gen.eeofPcaEOF.lookup "compute" = some "self._params['compute']" ∧
    Gen.eeofPcaEOF.lookup "random_state" = some "self._params['random_state']" ∧
    Gen.eeofPcaEOF.lookup "standardize" = some "False" := ⟨rfl, rfl, rfl, rfl, rfl, rfl, rfl, rfl⟩

/-- **sparse_no_penalty_is_eof_partial**: with `alpha = beta = 0` the pair `(V_k, V_k)` is a fixed point of the variable
projection step: the loading update `B = V_k` reproduces `A = V_k` as the polar factor of `XᴴX B = V_k D²`
(PARTIAL: assumes the SVD oracle returns `V_k` as that polar factor; checked numerically by the correspondence) -/
theorem sparse_no_penalty_is_eof_partial (Vk : Matrix (Fin p) (Fin k) 𝕜) (D2 : Matrix (Fin k) (Fin k) 𝕜)
    (G : Matrix (Fin p) (Fin p) 𝕜) (hG : G * Vk = Vk * D2) (hV : Vkᴴ * Vk = 1) :
    Vkᴴ * (G * Vk) = D2 := by
  rw [hG, ← Matrix.mul_assoc, hV, Matrix.one_mul]

/-- source obligation for `pca_all_modes_is_no_pca` on complex data: the PCA maps are `V` in and `Vᴴ` out -/
theorem src_pca_maps_adjoint : Gen.pcaTransformUsesV = true ∧ Gen.pcaInverseDataUsesConjTranspose = true := ⟨rfl, rfl⟩

/-- source obligation: patterns leave PC space through `V` itself (`V · q`), the exact inverse of entering through `Vᴴ` -/
theorem src_pca_component_maps :
    Gen.pcaInverseCompsBody.contains "V = self.V" = true ∧ Gen.pcaTransformCompsBody.contains "Tinv = self.V.conj().T" = true :=
  ⟨rfl, rfl⟩

/-- source obligation: `n_pca_modes = "all"` resolves to the full rank bound `min(shape)` -/
theorem src_pca_all_is_full_rank : Gen.pcaAllModesResolution.contains "min(X.shape)" = true ∧ Gen.pcaAllModesResolution.length = 2 :=
  ⟨rfl, rfl⟩

/-! ### ExtendedEOF: the delay-embedded matrix, on the executable model `XM.embedMatrix` (generated `eeofSamplesKept`, `eeofShift`) -/

/-- every kept row reads existing samples only, and column `e·p + f` of row `t` is `X[t + e·tau, f]` -/
theorem model_embed_entry {α : Type} [Zero α] {n p : ℕ} (X : XM.Mat n p α) (tau emb : ℕ) (t : Fin (Gen.eeofSamplesKept n emb tau))
    (e : Fin emb) (f : Fin p) (hc : e.val * p + f.val < emb * p) :
    (XM.embedMatrix X tau emb).get t ⟨e.val * p + f.val, hc⟩
      = X.get ⟨t.val + Gen.eeofShift e.val tau, XP.EeofM.kept_rows_in_range tau emb t e⟩ f := by
  have hp : 0 < p := Nat.lt_of_le_of_lt (Nat.zero_le _) f.isLt
  have hdiv : (e.val * p + f.val) / p = e.val := by
    rw [Nat.add_comm, Nat.add_mul_div_right _ _ hp, Nat.div_eq_of_lt f.isLt, Nat.zero_add]
  have hmod : (e.val * p + f.val) % p = f.val := by
    rw [Nat.add_comm, Nat.add_mul_mod_self_right, Nat.mod_eq_of_lt f.isLt]
  simp only [XM.embedMatrix, XM.Mat.get_ofFn, hdiv, hmod]
  exact dif_pos ⟨XP.EeofM.kept_rows_in_range tau emb t e, f.isLt⟩

/-- **eeof_single_embedding on the model**: with one copy nothing is shifted and every sample is kept -/
theorem model_single_embedding_keeps_everything (n tau : ℕ) :
    Gen.eeofSamplesKept n 1 tau = n ∧ Gen.eeofShift 0 tau = 0 :=
  eeof_single_embedding n tau

/-! ### two-view multi-set CCA and cross-set CCA: on the executable model `XM.mccaC` / `XM.mccaD` (tied by the `mcca` correspondence) -/

/-- the matrix `_C` handed to `eigh` couples DIFFERENT views only: zero inside a view, cross-covariance over the number of views
across views -/
theorem model_mcca_C_blocks {n P : ℕ} (X : XM.Mat n P ℝ) (blk : Fin P → ℕ) (nv : ℕ) (a b : Fin P) :
    (XM.mccaC (ρ := ℝ) X blk nv).toMatrix a b = if blk a = blk b then 0 else XP.MccaM.cov X a b / (nv : ℝ) := by
  simp only [XM.mccaC, toMatrix_apply, XM.Mat.get_ofFn, Entry.divReal_eq, Num.ofNat_real, XP.MccaM.cov, Zero.zero_eq]
  split_ifs
  · rw [sub_self, zero_div]
  · rw [sub_zero]
    rfl

/-- the matrix `_D` (no ridge term) keeps each view's OWN covariance block (shifted on the diagonal), over the number of views -/
theorem model_mcca_D_blocks {n P : ℕ} (X : XM.Mat n P ℝ) (blk : Fin P → ℕ) (nv : ℕ) (lmin eps : ℝ) (a b : Fin P) :
    (XM.mccaD (ρ := ℝ) X blk nv (fun _ => 0) lmin eps).toMatrix a b
      = ((if blk a = blk b then XP.MccaM.cov X a b else 0) - (if a = b then lmin - eps else 0)) / (nv : ℝ) := by
  simp only [XM.mccaD, toMatrix_apply, XM.Mat.get_ofFn, Num.ofNat_real, XP.MccaM.cov, Gen.mccaRidge, Gen.mccaShift, Nat.cast_one,
    Nat.cast_zero, sub_zero, one_mul, zero_mul, add_zero]

/-- **two_view_mcca_is_cca, step 1** — an eigen-pair of the model's `(C, D)` satisfies, for every feature `a`, the coupled
equations of CCA: (cross-covariances with the other views) · weights = λ · (own covariance, shifted) · own weights -/
theorem model_mcca_coupled_equations {n P : ℕ} (X : XM.Mat n P ℝ) (blk : Fin P → ℕ) (nv : ℕ) (hnv : nv ≠ 0) (lmin eps lam : ℝ)
    (w : Fin P → ℝ)
    (h : (XM.mccaC (ρ := ℝ) X blk nv).toMatrix.mulVec w
          = lam • (XM.mccaD (ρ := ℝ) X blk nv (fun _ => 0) lmin eps).toMatrix.mulVec w) (a : Fin P) :
    (∑ b, (if blk a = blk b then 0 else XP.MccaM.cov X a b * w b))
      = lam * ((∑ b, (if blk a = blk b then XP.MccaM.cov X a b * w b else 0)) - (lmin - eps) * w a) := by
  have hnv' : (nv : ℝ) ≠ 0 := Nat.cast_ne_zero.mpr hnv
  -- row `a` of the eigen-equation, term by term: both sides carry the factor `1 / nv`
  have e1 : ∀ b, (XM.mccaC (ρ := ℝ) X blk nv).toMatrix a b * w b
      = (if blk a = blk b then 0 else XP.MccaM.cov X a b * w b) / (nv : ℝ) := by
    intro b
    rw [model_mcca_C_blocks, ite_mul, zero_mul, div_mul_eq_mul_div, ite_div, zero_div]
  have e2 : ∀ b, (XM.mccaD (ρ := ℝ) X blk nv (fun _ => 0) lmin eps).toMatrix a b * w b
      = ((if blk a = blk b then XP.MccaM.cov X a b * w b else 0) - (if a = b then (lmin - eps) * w b else 0)) / (nv : ℝ) := by
    intro b
    rw [model_mcca_D_blocks, div_mul_eq_mul_div, sub_mul, ite_mul, ite_mul, zero_mul]
  have ha := congrFun h a
  simp only [Matrix.mulVec, dotProduct, Pi.smul_apply, smul_eq_mul, e1, e2] at ha
  rw [← Finset.sum_div, ← Finset.sum_div, Finset.sum_sub_distrib, Finset.sum_ite_eq, if_pos (Finset.mem_univ a),
    ← mul_div_assoc] at ha
  exact (div_left_inj' hnv').mp ha

/-- source obligations (regenerated from `xeofs/multi/cca.py`): both matrices are divided by the number of views, the solver is asked
for the largest eigenvalues which are put in descending order, `transform` contracts view `i` with `weights[i]`, the stored variates
are `_transform` of the stored input data -/
theorem src_mcca_shape (p k : ℕ) :
    Gen.mccaDividesByViews = true ∧ Gen.mccaOrderDescending = true ∧ Gen.mccaSubsetHigh p = p - 1 ∧
    Gen.mccaSubsetLow p k = p - k ∧ Gen.mccaTransformUsesOwnWeights = true ∧ Gen.mccaVariatesAreTransformOfInput = true ∧
    Gen.mccaExpvarDdof = 0 := ⟨rfl, rfl, rfl, rfl, rfl, rfl, rfl⟩

/-- the generated ridge block: without ridge (`c = 0`) it is the view's own covariance, with `c = 1` the identity -/
theorem mcca_ridge_endpoints (cov eye : ℝ) : Gen.mccaRidge (0 : ℝ) cov eye = cov ∧ Gen.mccaRidge (1 : ℝ) cov eye = eye := by
  simp [Gen.mccaRidge]

/-- **two_view_mcca_is_cca, step 2** — for two views the coupled equations make the eigenvalue the canonical correlation: the
variates `X wx`, `Y wy` have equal variance and correlation `λ` (what `xeofs.cross.CCA` reports as its canonical correlation) -/
theorem mcca_two_view_eigenvalue_is_canonical_correlation {p q : ℕ} (Sxx : Matrix (Fin p) (Fin p) ℝ)
    (Syy : Matrix (Fin q) (Fin q) ℝ) (Sxy : Matrix (Fin p) (Fin q) ℝ) (wx : Fin p → ℝ) (wy : Fin q → ℝ) (lam : ℝ) (hl : lam ≠ 0)
    (h1 : Sxy.mulVec wy = lam • Sxx.mulVec wx) (h2 : Sxyᵀ.mulVec wx = lam • Syy.mulVec wy)
    (hv : 0 < wx ⬝ᵥ Sxx.mulVec wx) :
    wy ⬝ᵥ Syy.mulVec wy = wx ⬝ᵥ Sxx.mulVec wx ∧
    (wx ⬝ᵥ Sxy.mulVec wy) / (Real.sqrt (wx ⬝ᵥ Sxx.mulVec wx) * Real.sqrt (wy ⬝ᵥ Syy.mulVec wy)) = lam := by
  have e1 : wx ⬝ᵥ Sxy.mulVec wy = lam * (wx ⬝ᵥ Sxx.mulVec wx) := by rw [h1, dotProduct_smul, smul_eq_mul]
  have e2 : wx ⬝ᵥ Sxy.mulVec wy = lam * (wy ⬝ᵥ Syy.mulVec wy) := by
    rw [Matrix.dotProduct_mulVec, ← Matrix.mulVec_transpose, dotProduct_comm, h2, dotProduct_smul, smul_eq_mul]
  have hvar : wy ⬝ᵥ Syy.mulVec wy = wx ⬝ᵥ Sxx.mulVec wx := (mul_left_cancel₀ hl (e1.symm.trans e2)).symm
  refine ⟨hvar, ?_⟩
  rw [hvar, Real.mul_self_sqrt hv.le, e1]
  exact mul_div_cancel_right₀ lam hv.ne'

/-- non-vacuity: unit variances, cross-covariance 1/2, unit weights: the hypotheses hold with `λ = 1/2` -/
example : ((!![(1 / 2 : ℝ)] : Matrix (Fin 1) (Fin 1) ℝ).mulVec ![1] = (1 / 2 : ℝ) • (!![(1 : ℝ)] : Matrix (Fin 1) (Fin 1) ℝ).mulVec ![1])
    ∧ (0 : ℝ) < ![(1 : ℝ)] ⬝ᵥ (!![(1 : ℝ)] : Matrix (Fin 1) (Fin 1) ℝ).mulVec ![1] := by
  simp only [cons_mulVec, cons_dotProduct, dotProduct_of_isEmpty, empty_mulVec, smul_cons, smul_empty, smul_eq_mul, head_cons,
    mul_one, add_zero, zero_lt_one, and_self]

/-- source obligation (regenerated): the named cross-set classes hand EVERY constructor argument on to the general class — a named
method and the general method given identical arguments are configured identically (only `alpha` is fixed by the class) -/
theorem src_named_classes_forward_every_argument : Gen.namedClassArgsNotForwarded = [] := rfl

end C10
