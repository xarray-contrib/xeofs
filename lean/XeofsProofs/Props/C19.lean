import XeofsProofs.Bridge
import XeofsProofs.Lemmas.Small
import XeofsProofs.Lemmas.Corr
import Mathlib.Algebra.BigOperators.Intervals
import XeofsModel.Generated.Facts
import XeofsProofs.Lemmas.OpaModel
/-!
# C19 — OPA returns uncorrelated series ordered by their own decorrelation time
-/
open Matrix Finset
namespace C19

variable {𝕜 : Type} [RCLike 𝕜] {n r : ℕ}

/-- the trapezoidal weights (generated): ½ at lag 0 and at `τmax`, 1 in between -/
theorem lag_weights (tau tauMax : ℕ) (h0 : 0 < tauMax) :
    Gen.opaLagWeightTimesTwo 0 tauMax = 1 ∧ Gen.opaLagWeightTimesTwo tauMax tauMax = 1 ∧
    (0 < tau → tau < tauMax → Gen.opaLagWeightTimesTwo tau tauMax = 2) := by
  refine ⟨by simp [Gen.opaLagWeightTimesTwo], ?_, ?_⟩
  · simp [Gen.opaLagWeightTimesTwo]
  · intro h1 h2
    have a : tau ≠ 0 := by omega
    have b : tau ≠ tauMax := by omega
    simp [Gen.opaLagWeightTimesTwo, a, b]

/-- the weight of a lag does not depend on how the integer `tau_max` is represented: it is decided by VALUE -/
theorem lag_weight_by_value (tau tauMax tauMax' : ℕ) (h : tauMax = tauMax') :
    Gen.opaLagWeightTimesTwo tau tauMax = Gen.opaLagWeightTimesTwo tau tauMax' := by rw [h]

/-- lag covariances are normalised with the number of overlapping samples minus one -/
theorem lag_denominator (nn tau : ℕ) : Gen.opaLagDenominator nn tau = nn - tau - 1 := rfl

/-- **opa_T_is_trapezoid**: the quadratic form of the weighted lag sum is the weighted sum of the quadratic forms — the
eigenvalue attached to a filter pattern `v` is the trapezoidal sum of the lag covariances of ITS OWN series -/
theorem opa_T_is_trapezoid {ι : Type*} (s : Finset ι) (w : ι → 𝕜) (C : ι → Matrix (Fin r) (Fin r) 𝕜) (v : Fin r → 𝕜) :
    star v ⬝ᵥ ((∑ τ ∈ s, w τ • C τ) *ᵥ v) = ∑ τ ∈ s, w τ * (star v ⬝ᵥ (C τ *ᵥ v)) := by
  rw [Matrix.sum_mulVec, dotProduct_sum]
  refine Finset.sum_congr rfl fun τ _ => ?_
  rw [Matrix.smul_mulVec, dotProduct_smul, smul_eq_mul]

/-- **opa_scores_uncorrelated_equal_norm**: the score series are `P = Z F` with `Fᴴ C₀ F = 1` where `C₀ = ZᴴZ/(n−1)`;
hence `PᴴP = (n−1)·1` -/
theorem opa_scores_uncorrelated_equal_norm (Z : Matrix (Fin n) (Fin r) 𝕜) (F : Matrix (Fin r) (Fin r) 𝕜) (c : 𝕜)
    (h : Fᴴ * (c • (Zᴴ * Z)) * F = 1) (hc : c ≠ 0) :
    (Z * F)ᴴ * (Z * F) = c⁻¹ • (1 : Matrix (Fin r) (Fin r) 𝕜) :=
  XP.Small.gram_of_whitening_filter Z F c h hc

/-- **opa_biorthogonal**: filter patterns `F` and optimally persistent patterns `W = C₀ F` satisfy `Fᴴ W = 1` -/
theorem opa_biorthogonal (C0 F : Matrix (Fin r) (Fin r) 𝕜) (h : Fᴴ * C0 * F = 1) : Fᴴ * (C0 * F) = 1 := by
  rw [← Matrix.mul_assoc]; exact h

/-- **opa_first_optimal**: for a Hermitian target matrix with descending eigenvalues `d`, no direction has a larger
Rayleigh quotient than the first eigenvalue — no linear combination of the retained PCs is more persistent than mode 1.
Needs SIGNED eigenvalues in descending order (source obligation below); an SVD would return |λ|. -/
theorem opa_first_optimal {q : ℕ} (A W : Matrix (Fin (q+1)) (Fin (q+1)) 𝕜) (d : Fin (q+1) → ℝ) (hd : Antitone d)
    (hW : W * Wᴴ = 1) (hA : A = W * diagonal (fun i => (d i : 𝕜)) * Wᴴ) (x : Fin (q+1) → 𝕜) :
    RCLike.re (star x ⬝ᵥ (A *ᵥ x)) ≤ d 0 * RCLike.re (star x ⬝ᵥ x) :=
  XP.Corr.rayleigh_le_first A W d hd hW hA x

theorem src_symmetric_descending_solver : Gen.opaUsesSymmetricDescendingSolver = true := rfl

/-- **opa_sorted** is the order the symmetric solver returns (descending), cf. `C11.rot_sorted` for the sort itself -/
example : Gen.opaLagWeightTimesTwo 3 3 = 1 ∧ Gen.opaLagWeightTimesTwo 2 3 = 2 ∧ Gen.opaLagWeightTimesTwo 300 300 = 1 := by decide

/-- source obligation: the inner EOF that pre-reduces the data keeps its default centring (the PCs must have zero mean for the
lag covariances to be covariances) -/
theorem src_opa_inner_eof_centres : Gen.opaInnerEOF.lookup "center" = none := rfl

/-! ### on the executable model `XM.opaFit` (run by the driver next to `OPA._fit_algorithm`) -/

/-- the model's zero-lag covariance is `SᵀS/(n − 1)` (generated denominator) -/
theorem model_lag0 {n q : ℕ} (S : XM.Mat n q ℝ) :
    (XM.lagCov (ρ := ℝ) S 0).toMatrix = (((n - 1 : ℕ) : ℝ))⁻¹ • ((S.toMatrix)ᵀ * S.toMatrix) := by
  ext a b
  simp only [XM.lagCov, toMatrix_apply, XM.Mat.get_ofFn, Entry.divReal_eq, Matrix.smul_apply, smul_eq_mul, sumFin_eq,
    Matrix.mul_apply, Matrix.transpose_apply, Num.ofNat_real, Gen.opaLagDenominator, Nat.sub_zero, add_zero, Fin.is_lt,
    dite_true, Fin.eta]
  rw [div_eq_inv_mul]
  rfl

/-- **opa_scores_uncorrelated_equal_norm on the executable model**: whatever decomposition of `C0` the solver returned (also an
arbitrary rotation inside a pair of PCs with equal variance), `Cinv = (U√s)⁻¹` whitens `C0` as `Cinv C0 Cinvᵀ = 1`
(`model_inverse_factor_whitens`) and the returned series are uncorrelated with equal norm -/
theorem model_scores_uncorrelated_equal_norm {n p q k : ℕ} (S : XM.Mat n q ℝ) (C : XM.Mat p q ℝ) (tauMax : ℕ) (Cinv : XM.Mat q q ℝ)
    (Ue : XM.Mat q k ℝ) (lam : Fin k → ℝ) (hn : 1 < n)
    (hW : Cinv.toMatrix * (XM.lagCov (ρ := ℝ) S 0).toMatrix * (Cinv.toMatrix)ᵀ = 1) (hU : (Ue.toMatrix)ᵀ * Ue.toMatrix = 1) :
    ((XM.opaFit S C tauMax Cinv Ue lam).scores.toMatrix)ᵀ * (XM.opaFit S C tauMax Cinv Ue lam).scores.toMatrix
      = (((n - 1 : ℕ) : ℝ)) • (1 : Matrix (Fin k) (Fin k) ℝ) := by
  have hne : (((n - 1 : ℕ) : ℝ)) ≠ 0 := Nat.cast_ne_zero.mpr (Nat.sub_pos_of_lt hn).ne'
  -- the filter `F = Cinvᵀ Ue` whitens the zero-lag covariance `C0 = SᵀS/(n−1)`
  have hF : ((Cinv.toMatrix)ᵀ * Ue.toMatrix)ᴴ * ((((n - 1 : ℕ) : ℝ))⁻¹ • ((S.toMatrix)ᴴ * S.toMatrix))
      * ((Cinv.toMatrix)ᵀ * Ue.toMatrix) = 1 := by
    rw [conjTranspose_eq_transpose_of_trivial, conjTranspose_eq_transpose_of_trivial, ← model_lag0, Matrix.transpose_mul,
      Matrix.transpose_transpose]
    calc _ = (Ue.toMatrix)ᵀ * (Cinv.toMatrix * (XM.lagCov (ρ := ℝ) S 0).toMatrix * (Cinv.toMatrix)ᵀ) * Ue.toMatrix := by
          simp only [Matrix.mul_assoc]
      _ = 1 := by rw [hW, Matrix.mul_one, hU]
  have h := XP.Small.gram_of_whitening_filter _ _ _ hF (inv_ne_zero hne)
  rwa [inv_inv, conjTranspose_eq_transpose_of_trivial, ← XP.OpaM.scores_toMatrix S C tauMax Cinv Ue lam] at h

/-- the hypothesis of the previous theorem follows from the oracle specifications alone: `L Lᵀ = C0` and `Cinv L = 1` -/
theorem model_inverse_factor_whitens {q : ℕ} (C0 L Cinv : Matrix (Fin q) (Fin q) ℝ) (hL : L * Lᵀ = C0) (hI : Cinv * L = 1) :
    Cinv * C0 * Cinvᵀ = 1 := by
  rw [← hL]
  calc Cinv * (L * Lᵀ) * Cinvᵀ = (Cinv * L) * (Cinv * L)ᵀ := by
        simp only [Matrix.transpose_mul, Matrix.mul_assoc]
    _ = 1 := by rw [hI]; simp

/-- non-vacuity with a NON-symmetric inverse factor: `C0 = 1`, `L` a rotation by 90°, `Cinv = Lᵀ` -/
example : (!![0, -1; 1, 0] : Matrix (Fin 2) (Fin 2) ℝ) * (!![0, -1; 1, 0] : Matrix (Fin 2) (Fin 2) ℝ)ᵀ = 1
    ∧ (!![0, 1; -1, 0] : Matrix (Fin 2) (Fin 2) ℝ) * (!![0, -1; 1, 0] : Matrix (Fin 2) (Fin 2) ℝ) = 1 := by
  rw [Matrix.one_fin_two, Matrix.eta_fin_two (!![0, -1; 1, 0] : Matrix (Fin 2) (Fin 2) ℝ)ᵀ]
  constructor <;> simp

/-- the matrix the model hands to the symmetric eigen-solver is symmetric for EVERY inverse factor `Cinv`, so `eigh` applies (the
code before the repair 5ec1b91 contracted `Cinv` over the wrong index, which is symmetric only for a symmetric `Cinv`) -/
theorem model_target_symmetric {q : ℕ} (Cinv M : XM.Mat q q ℝ) :
    ((XM.opaTarget (ρ := ℝ) Cinv M).toMatrix)ᵀ = (XM.opaTarget (ρ := ℝ) Cinv M).toMatrix := by
  rw [XP.OpaM.opaTarget_toMatrix, Matrix.transpose_smul]
  congr 1
  simp only [Matrix.transpose_mul, Matrix.transpose_add, Matrix.transpose_transpose, Matrix.mul_assoc]
  rw [add_comm]

end C19
