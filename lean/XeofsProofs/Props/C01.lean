import XeofsProofs.Lemmas.EofModel
import XeofsProofs.Lemmas.HilbertModel
import XeofsProofs.Lemmas.FullSVD
import XeofsProofs.Lemmas.Recon
import XeofsProofs.Lemmas.EckartYoung
import XeofsProofs.Lemmas.Sign
import XeofsProofs.Lemmas.ScalerAlg
import XeofsModel.Generated.Facts
/-!
# C01 — EOF-type modes are the exact eigen-decomposition of the preprocessed data

`XM.eofFit` is the executable model of `EOF._fit_algorithm` (truncate, sign rule, `scores = U * s`,
`explained variance = Gen.eofExpVar s n`, the latter REGENERATED from the source on each run).  The SVD is an oracle:
any `(U, s, V)` satisfying the specification `XP.SVD.IsSVD` / `XP.Full.IsFullSVD` — for ANY matrix `X` over ℝ or ℂ of ANY
shape (`n < p`, `p = 1`, repeated and zero singular values included), any `k`, any sign pattern the sign rule may choose.
ComplexEOF, HilbertEOF and ExtendedEOF run the same algorithm on the complex / analytic / delay-embedded matrix, so `X`
is "whatever matrix was decomposed" (`model.data['input_data']`).
-/
open XM Matrix XP.EofM
namespace C01

variable {𝕜 : Type} [RCLike 𝕜] {n p k r : ℕ}

/-- components are orthonormal -/
theorem components_orthonormal (hk : k ≤ r) (U : Mat n r 𝕜) (s : Fin r → ℝ) (V : Mat p r 𝕜) (sgn : Fin k → ℝ)
    (hV : V.toMatrixᴴ * V.toMatrix = 1) (hsgn : ∀ j, sgn j * sgn j = 1) :
    (eofFit hk hk hk U s V sgn).comps.toMatrixᴴ * (eofFit hk hk hk U s V sgn).comps.toMatrix = 1 := by
  rw [comps_toMatrix]
  exact orthonormal_mul_rdiag_sgn (submatrix_cols_orthonormal _ _ (Fin.castLE_injective hk) hV) sgn hsgn

/-- scores are mutually orthogonal and the norm of the `j`-th score series is the `j`-th singular value:
`SᴴS = diag(s_j²)` -/
theorem scores_gram (hk : k ≤ r) (U : Mat n r 𝕜) (s : Fin r → ℝ) (V : Mat p r 𝕜) (sgn : Fin k → ℝ)
    (hU : U.toMatrixᴴ * U.toMatrix = 1) (hsgn : ∀ j, sgn j * sgn j = 1) :
    (eofFit hk hk hk U s V sgn).scores.toMatrixᴴ * (eofFit hk hk hk U s V sgn).scores.toMatrix
      = rdiag (fun j => s (Fin.castLE hk j) * s (Fin.castLE hk j)) := by
  rw [scores_toMatrix, gram_mul,
    orthonormal_mul_rdiag_sgn (submatrix_cols_orthonormal _ _ (Fin.castLE_injective hk) hU) sgn hsgn, Matrix.mul_one,
    rdiag_conjTranspose, rdiag_mul]

/-- the explained variances are `s_j² / (n − 1)` (the formula is the generated one) -/
theorem expvar_formula (hk : k ≤ r) (U : Mat n r 𝕜) (s : Fin r → ℝ) (V : Mat p r 𝕜) (sgn : Fin k → ℝ) (j : Fin k) :
    (eofFit hk hk hk U s V sgn).expvar j = s (Fin.castLE hk j) ^ 2 / ((n : ℝ) - 1) := by
  -- the generated formula has `Num.ofNat 1`, the cast of `1 : ℕ`, where the statement has `1`
  rw [pow_two, ← Nat.cast_one (R := ℝ)]
  rfl

/-- each component is an eigenvector of the sample covariance matrix `XᴴX/(n−1)` with its explained variance as
eigenvalue -/
theorem expvar_eigen (hk : k ≤ r) (X : Mat n p 𝕜) (U : Mat n r 𝕜) (s : Fin r → ℝ) (V : Mat p r 𝕜) (sgn : Fin k → ℝ)
    (h : XP.SVD.IsSVD X.toMatrix U.toMatrix s V.toMatrix) :
    ((((n : ℝ) - 1)⁻¹ : ℝ) : 𝕜) • (X.toMatrixᴴ * X.toMatrix) * (eofFit hk hk hk U s V sgn).comps.toMatrix
      = (eofFit hk hk hk U s V sgn).comps.toMatrix * rdiag (eofFit hk hk hk U s V sgn).expvar := by
  -- `XᴴX V_k = V_k diag(s_j²)`, then only diagonal matrices are left to compare
  rw [comps_toMatrix, Matrix.smul_mul, ← Matrix.mul_assoc, ← mul_submatrix_cols, XP.SVD.cov_eigen h,
    mul_diagonal_submatrix_cols, Matrix.mul_assoc, Matrix.mul_assoc, ← Matrix.mul_smul]
  unfold rdiag
  rw [diagonal_mul_diagonal, diagonal_mul_diagonal, ← diagonal_smul]
  congr 2
  funext j
  rw [Pi.smul_apply, smul_eq_mul, expvar_formula, ← RCLike.ofReal_pow, ← RCLike.ofReal_mul, ← RCLike.ofReal_mul,
    ← RCLike.ofReal_mul]
  congr 1
  ring

/-- **the explained variances are, in descending order, the eigenvalues of the sample covariance matrix**
(`Matrix.IsHermitian.eigenvalues₀` is Mathlib's descending enumeration of ALL eigenvalues), stated with the generated
formula `Gen.eofExpVar`. -/
theorem expvar_are_eigenvalues {X : Matrix (Fin n) (Fin p) 𝕜} {U s V} (h : XP.Full.IsFullSVD X U s V) (hn : 2 ≤ n)
    (hC : (((n : ℝ) - 1)⁻¹ : 𝕜) • (Xᴴ * X) |>.IsHermitian) :
    List.ofFn hC.eigenvalues₀ = List.ofFn (fun j => Gen.eofExpVar (s j) (Num.ofNat n : ℝ)) := by
  rw [XP.Full.expvar_are_eigenvalues h hn hC]
  congr 1
  funext j
  rw [pow_two, ← Nat.cast_one (R := ℝ)]
  rfl

/-- total variance (`Σ_j var_ddof1`, for column-centred data `Σ_j Σ_t |x_tj|²/(n−1)`) is the trace of the covariance
matrix, i.e. the sum of ALL its eigenvalues: the ratios are taken against that matrix's total variance -/
theorem total_variance_eq_trace (X : Matrix (Fin n) (Fin p) 𝕜) :
    (∑ j, ∑ t, (‖X t j‖ ^ 2)) / ((n : ℝ) - 1) = RCLike.re (trace ((((n : ℝ) - 1)⁻¹ : 𝕜) • (Xᴴ * X))) := by
  rw [XP.Sign.total_variance_eq_trace, trace_smul, smul_eq_mul, ← RCLike.ofReal_one (K := 𝕜), ← RCLike.ofReal_sub,
    ← RCLike.ofReal_inv, RCLike.re_ofReal_mul, div_eq_inv_mul]

theorem ratio_formula (hk : k ≤ r) (U : Mat n r 𝕜) (s : Fin r → ℝ) (V : Mat p r 𝕜) (sgn : Fin k → ℝ) (total : ℝ) (j : Fin k) :
    eofRatio (eofFit hk hk hk U s V sgn) total j = (eofFit hk hk hk U s V sgn).expvar j / total :=
  rfl

/-- the truncated reconstruction attains the tail sum `Σ_{i ≥ k} s_i²` … -/
theorem recon_error (U : Matrix (Fin n) (Fin n) 𝕜) (V : Matrix (Fin p) (Fin p) 𝕜) (s : Fin p → ℝ) (k : ℕ)
    (hU : Uᴴ * U = 1) (hV : Vᴴ * V = 1) (hpad : ∀ j : Fin p, n ≤ (j : ℕ) → s j = 0) :
    XP.Recon.frob2 (𝕜 := 𝕜) (U * XP.Recon.rectDiag 𝕜 n s * Vᴴ - U * XP.Recon.rectDiag 𝕜 n (XP.Recon.truncS k s) * Vᴴ)
      = ∑ i ∈ Finset.univ.filter (fun i : Fin p => ¬ i.val < k), s i ^ 2 :=
  XP.Recon.recon_error U V s k hU hV hpad

/-- … has rank at most `k` … -/
theorem recon_rank_le (U : Matrix (Fin n) (Fin n) 𝕜) (V : Matrix (Fin p) (Fin p) 𝕜) (s : Fin p → ℝ) (k : ℕ) :
    (U * XP.Recon.rectDiag 𝕜 n (XP.Recon.truncS k s) * Vᴴ).rank ≤ k :=
  XP.Recon.trunc_rank_le U V s k

/-- … and **no matrix of rank ≤ k does better** (Eckart–Young–Mirsky, proved from scratch) -/
theorem eckart_young (X : Matrix (Fin n) (Fin p) 𝕜) (V : Matrix (Fin p) (Fin p) 𝕜) (d : Fin p → ℝ)
    (hd : Antitone d) (hd0 : ∀ i, 0 ≤ d i) (hV : V * Vᴴ = 1)
    (hM : Xᴴ * X = V * diagonal (fun i => (d i : 𝕜)) * Vᴴ)
    (B : Matrix (Fin n) (Fin p) 𝕜) (hB : B.rank ≤ k) :
    ∑ i ∈ Finset.univ.filter (fun i : Fin p => ¬ i.val < k), d i ≤ XP.EY.frob2 (X - B) :=
  XP.EY.eckart_young X V d hd hd0 hV hM B hB

/-- the model's own reconstruction `S Cᴴ` is `U_k Σ_k V_kᴴ` — the signs cancel -/
theorem model_reconstruction (hk : k ≤ r) (U : Mat n r 𝕜) (s : Fin r → ℝ) (V : Mat p r 𝕜) (sgn : Fin k → ℝ)
    (hsgn : ∀ j, sgn j * sgn j = 1) :
    (eofInverse (eofFit hk hk hk U s V sgn) (eofFit hk hk hk U s V sgn).scores).toMatrix
      = U.toMatrix.submatrix id (Fin.castLE hk) * rdiag (fun j => s (Fin.castLE hk j))
          * (V.toMatrix.submatrix id (Fin.castLE hk))ᴴ := by
  rw [eofInverse, toMatrix_mul, toMatrix_conjT, comps_toMatrix, scores_toMatrix, Matrix.mul_assoc _ (rdiag sgn),
    mul_mul_conjTranspose, rdiag_conjTranspose, rdiag_sgn_conj sgn _ hsgn]

-- non-vacuity: a 3×2 real matrix with an explicit SVD
example : XP.SVD.IsSVD (!![2, 0; 0, 1; 0, 0] : Matrix (Fin 3) (Fin 2) ℝ) !![1, 0; 0, 1; 0, 0] ![2, 1] !![1, 0; 0, 1] where
  hU := by
    have hUt : (!![1, 0; 0, 1; 0, 0] : Matrix (Fin 3) (Fin 2) ℝ)ᴴ = !![1, 0, 0; 0, 1, 0] :=
      (conjTranspose_eq_transpose_of_trivial _).trans (transposeᵣ_eq _).symm
    rw [hUt, one_fin_two]
    simp
  hV := by rw [← one_fin_two, conjTranspose_one, Matrix.one_mul]
  hX := by
    rw [← one_fin_two, conjTranspose_one, Matrix.mul_one, diagonal_fin_two]
    simp
  nonneg := Fin.forall_fin_two.2 ⟨zero_le_two, zero_le_one⟩
  anti := Fin.antitone_iff_succ_le.2 (Fin.forall_fin_one.2 one_le_two)

/-- source obligation (HilbertEOF): the spurious mean that padding introduces in the imaginary part is removed per feature
(along the sample axis), so every column of the analytic signal keeps the mean of the real data -/
theorem src_hilbert_recentres_per_feature :
    Gen.hilbertRecentreMeanArgs = "axis=0" ∧ Gen.hilbertRecentreAfterCutUnconditional = true := ⟨rfl, rfl⟩

/-- source obligation (ExtendedEOF): the analysis of the delay-embedded matrix centres it (the option is forwarded, not
hard-wired off), so the explained variances are eigenvalues of its covariance -/
theorem src_eeof_inner_centres : Gen.eeofInnerEOF.lookup "center" = some "self._params['center']" := rfl

/-- source obligation: the decomposition the theorems take as an oracle with specification `IsSVD` is numpy's SVD of the matrix itself -/
theorem src_exact_solver_is_svd : Gen.decomposerSolverFunctions.head? = some "np.linalg.svd" := rfl

/-! ### HilbertEOF: what is decomposed — on the executable model `XM.padExp` / `XM.hilbertCutRecentre` -/

/-- the Hilbert-augmented data have the (preprocessed) input as their real part, whatever the padding did at the ends: the
analytic signal of the padded series is cut back to the rows of the input (oracle specification: its real part is its argument) -/
theorem model_hilbert_real_part {n p : ℕ} (y : XM.Mat n p ℝ) (c0 c1 : Fin p → ℝ) (decay : ℝ) (hn : 0 < n) (H : XM.Mat (3 * n) p 𝕜)
    (hH : ∀ i f, RCLike.re (H.get i f) = (XM.padExp y c0 c1 decay hn).get i f) (t : Fin n) (f : Fin p) :
    RCLike.re ((XM.hilbertCutRecentre (ρ := ℝ) H).get t f) = y.get t f := by
  simp only [XM.hilbertCutRecentre, Mat.get_ofFn]
  rw [re_ofParts, Entry.re_eq, hH, XP.HilbertM.padExp_middle y c0 c1 decay hn t f]

/-- … and an imaginary part with zero mean per feature, so the decomposed matrix is centred whenever the input is -/
theorem model_hilbert_imag_centred {n p : ℕ} (H : XM.Mat (3 * n) p 𝕜) (hn : 0 < n) (f : Fin p) :
    ∑ t : Fin n, RCLike.im ((XM.hilbertCutRecentre (ρ := ℝ) H).get t f) = 0 := by
  simp only [XM.hilbertCutRecentre, Mat.get_ofFn, im_ofParts, Entry.im_eq, foldl_add_eq_sum]
  simp only [Num.ofNat_real]
  rw [← Finset.sum_mul]
  exact mul_eq_zero_of_left (XP.Scaler.centred_mean_zero hn _) _

end C01
