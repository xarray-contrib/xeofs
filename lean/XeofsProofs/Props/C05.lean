import XeofsProofs.Lemmas.EofModel
import XeofsProofs.Lemmas.MccaModel
import XeofsProofs.Lemmas.Misc13
import XeofsProofs.Props.C04
import XeofsModel.Scaler
import Mathlib.Data.Matrix.ColumnRowPartitioned
import XeofsModel.Generated.Facts
/-!
# C05 — out-of-sample transform is a per-sample map labelled by the new data
-/
open XM Matrix XP.EofM
namespace C05

variable {𝕜 : Type} [RCLike 𝕜] {n n' p k r m : ℕ}

/-- **transform_rows**: the projection of a concatenation is the concatenation of the projections — for any two blocks
of samples and any fitted components -/
theorem transform_rows (A : Matrix (Fin n) (Fin p) 𝕜) (B : Matrix (Fin n') (Fin p) 𝕜) (C : Matrix (Fin p) (Fin k) 𝕜) :
    Matrix.fromRows A B * C = Matrix.fromRows (A * C) (B * C) :=
  XP.M13.transform_rows A B C

/-- row `t` of the model's transform depends on row `t` of the data only -/
theorem transform_row_local (hk : k ≤ r) (U : Mat n r 𝕜) (s : Fin r → ℝ) (V : Mat p r 𝕜) (sgn : Fin k → ℝ)
    (X Y : Mat m p 𝕜) (t : Fin m) (hrow : ∀ j, X.get t j = Y.get t j) (j : Fin k) :
    (eofTransform (eofFit hk hk hk U s V sgn) X).toMatrix t j = (eofTransform (eofFit hk hk hk U s V sgn) Y).toMatrix t j := by
  unfold eofTransform
  rw [toMatrix_mul, toMatrix_mul, Matrix.mul_apply, Matrix.mul_apply]
  simp only [toMatrix_apply, hrow]

/-- the scaler is applied entry by entry with the FITTED parameters, hence also per sample -/
theorem scaler_entrywise (f : ScalerFlags) (P : ScalerParams 𝕜) (x y : 𝕜) (h : x = y) :
    scalerTransform f P x = scalerTransform f P y := by rw [h]

/-- **transform_subset_of_training**: a training sample is mapped to its own row of the scores -/
theorem transform_subset_of_training (hk : k ≤ r) (X : Mat n p 𝕜) (U : Mat n r 𝕜) (s : Fin r → ℝ) (V : Mat p r 𝕜)
    (sgn : Fin k → ℝ) (h : XP.SVD.IsSVD X.toMatrix U.toMatrix s V.toMatrix) (Y : Mat m p 𝕜) (t : Fin m) (t0 : Fin n)
    (hrow : ∀ j, Y.get t j = X.get t0 j) (j : Fin k) :
    (eofTransform (eofFit hk hk hk U s V sgn) Y).toMatrix t j = (eofFit hk hk hk U s V sgn).scores.toMatrix t0 j := by
  rw [← C04.eof_transform_training_eq_scores hk X U s V sgn h]
  unfold eofTransform
  rw [toMatrix_mul, toMatrix_mul, Matrix.mul_apply, Matrix.mul_apply]
  simp only [toMatrix_apply, hrow]

/-- source obligations (sample MultiIndex): every `transform` records the coordinates of the data it was given, and the inverse used
for unseen data reads exactly that record — never the coordinates remembered from `fit` -/
theorem src_transform_records_new_coords :
    Gen.multiIndexTransformAlwaysRecords = true ∧ Gen.multiIndexInverseReadsChosenReference = true ∧
    Gen.multiIndexDictsSeparate = true := ⟨rfl, rfl, rfl⟩

/-- source obligation (cross-set models): in `transform` and `inverse_transform` the first field only ever touches
`preprocessor1 / pca1 / whitener1` and the second only the `…2` objects, so each field is labelled by its own data -/
theorem src_fields_use_their_own_objects :
    Gen.crossTransformObjectsX = ["pca1", "preprocessor1", "whitener1"] ∧ Gen.crossTransformObjectsY = ["pca2", "preprocessor2", "whitener2"] ∧
    Gen.crossInverseObjectsX = ["pca1", "preprocessor1", "whitener1"] ∧ Gen.crossInverseObjectsY = ["pca2", "preprocessor2", "whitener2"] :=
  ⟨rfl, rfl, rfl, rfl⟩

/-- source obligation: `PCA.transform` is the bare projection `X · V` — no mean, scale or any other statistic of the data being
transformed enters, which is what makes the transform a per-sample map -/
theorem src_pca_transform_is_projection :
    Gen.pcaTransformBody = ["transformed = xr.dot(X, self.V, dims=self.feature_name)", "transformed.name = X.name",
      "return transformed.rename({'mode': self.feature_name})"] := rfl

/-- source obligation: normalised out-of-sample scores are divided by the norms stored at fit, not by a statistic of the data being
transformed -/
theorem src_normalized_uses_fitted_norms :
    Gen.singleTransformNormalizedBody.head? = some "data2D = data2D / self.data['norms']" := rfl

/-- **multi-set CCA on the executable model**: `transform` is a per-sample map — row `i` of the answer reads row `i` of the new
data only -/
theorem model_mcca_transform_row_local {n m Q k : ℕ} (F : XM.MccaFit n Q k ℝ ℝ) (blkQ : Fin Q → ℕ) (X Y : XM.Mat m Q ℝ) (v : ℕ)
    (i : Fin m) (h : ∀ a, X.get i a = Y.get i a) (j : Fin k) :
    (XM.mccaTransform F blkQ X v).get i j = (XM.mccaTransform F blkQ Y v).get i j := by
  simp only [mccaTransform, Mat.mul, Mat.get_ofFn, h]

/-- … and the answer for view `v` depends on that view's own columns only (no view is projected with another view's weights) -/
theorem model_mcca_transform_reads_own_view {n m Q k : ℕ} (F : XM.MccaFit n Q k ℝ ℝ) (blkQ : Fin Q → ℕ) (X Y : XM.Mat m Q ℝ) (v : ℕ)
    (h : ∀ i a, blkQ a = v → X.get i a = Y.get i a) :
    XM.mccaTransform F blkQ X v = XM.mccaTransform F blkQ Y v := by
  refine Mat.ext_get fun i j => ?_
  simp only [mccaTransform, Mat.mul, Mat.get_ofFn, viewPart]
  congr 1; funext a
  by_cases ha : blkQ a = v
  · rw [h i a ha]
  · rw [if_neg ha]
    show X.get i a * (0 : ℝ) = Y.get i a * (0 : ℝ)
    rw [mul_zero, mul_zero]

end C05
