import XeofsModel.Lazy2
/-!
# C12 — dask-backed and deferred fits stay lazy until asked

The list of forcing sites (`.values`, `.item()`, `.compute()`, `dask.compute(...)`, `bool()`/`if` on arrays) on the fit
paths, each with the option guarding it, is REGENERATED from the source (`Gen.forcingSites`).
PARTIAL (runtime, not carried by a theorem): equality of results under every chunking/scheduler, and computations hidden
inside xarray/dask/numpy calls — exercised by the correspondence runs only.
-/
namespace C12
open Lazy2

/-- **no_force_when_deferred**: with `compute=False`, `check_nans=False` and an integer `n_modes`, a fit triggers no
computation — for ANY site list whose guards are all among the three options -/
theorem no_force_when_deferred (sites : List (String × String)) (h : guarded sites = true) (c : Cfg)
    (hc : c.compute = false) (hn : c.checkNans = false) (hv : c.varianceThreshold = false) :
    forceLog sites c = [] := by
  unfold forceLog
  split
  · rw [List.map_eq_nil_iff, List.filter_eq_nil_iff]
    intro s hs
    have hg := List.all_eq_true.mp h s hs
    simp only [Bool.or_eq_true, beq_iff_eq] at hg
    rcases hg with (hg | hg) | hg <;> simp [fires, hg, hc, hn, hv]
  · rfl

/-- source obligation: every forcing site on the current fit paths sits under one of the three options -/
theorem src_sites_guarded : guarded Gen.forcingSites = true := rfl

/-- hence: the current tree forces nothing in a deferred fit -/
theorem no_force_when_deferred_current (c : Cfg)
    (hc : c.compute = false) (hn : c.checkNans = false) (hv : c.varianceThreshold = false) :
    forceLog Gen.forcingSites c = [] :=
  no_force_when_deferred Gen.forcingSites src_sites_guarded c hc hn hv

/-- with numpy input nothing is ever forced -/
theorem numpy_never_forces (sites : List (String × String)) (c : Cfg) (h : c.isDask = false) : forceLog sites c = [] := by
  simp [forceLog, h]

/-- **input_never_loaded**: `compute()` skips every entry stored with `allow_compute = False` -/
theorem input_never_loaded (entries : List (String × Bool)) (name : String) (h : (name, false) ∈ entries)
    (huniq : ∀ b, (name, b) ∈ entries → b = false) : name ∉ computeLoads entries := by
  simp only [computeLoads, List.mem_map, List.mem_filter, not_exists, not_and]
  intro e he hname
  have := huniq e.2 (by rw [← hname]; exact he.1)
  simp [this] at he

/-- source obligations: the `compute` option is forwarded to every inner model / helper that could force -/
theorem src_compute_forwarded :
    Gen.eeofPcaEOF.lookup "compute" = some "self._params['compute']" ∧
    Gen.eeofInnerEOF.lookup "compute" = some "self._params['compute']" ∧
    Gen.opaInnerEOF.lookup "compute" = some "self._params['compute']" ∧
    Gen.crossPreprocessor1.lookup "compute" = some "compute" ∧ Gen.crossPreprocessor2.lookup "compute" = some "compute" ∧
    Gen.popPCA.lookup "compute_eagerly" = some "compute" := ⟨rfl, rfl, rfl, rfl, rfl, rfl⟩

-- an unguarded `.values` on a fit path breaks the obligation, and the model then predicts a forced computation
example : guarded (("single/eof.py:EOF._fit_algorithm:.values", "always") :: Gen.forcingSites) = false := by decide
example : forceLog [("x:.values", "always")] ⟨false, false, false, true⟩ = ["x:.values"] := by decide
example : forceLog Gen.forcingSites ⟨true, true, false, true⟩ ≠ [] := by decide

/-- source obligation: every model stores its input data excluded from `compute()` (`allow_compute=False`), rotators included -/
theorem src_input_data_never_computed :
    Gen.inputDataRegistrations.all (·.2) = true ∧
    Gen.inputDataRegistrations.map (·.1) = ["cross/cpcca.py:input_data1", "cross/cpcca.py:input_data2", "cross/cpcca_rotator.py:input_data1",
      "cross/cpcca_rotator.py:input_data2", "single/eeof.py:input_data", "single/eof.py:input_data", "single/eof_rotator.py:input_data",
      "single/opa.py:input_data", "single/pop.py:input_data", "single/sparse_pca.py:input_data"] := ⟨rfl, rfl⟩

end C12
