import XeofsModel.Frame
import XeofsProofs.Lemmas.EofModel
import XeofsProofs.Lemmas.CpccaModel
import XeofsProofs.Lemmas.RotModel
import XeofsProofs.Lemmas.CrotModel
import XeofsProofs.Lemmas.MccaModel
import XeofsProofs.Lemmas.Small
import XeofsProofs.Lemmas.Rot
import XeofsProofs.Props.C01
import XeofsModel.Generated.Facts
/-!
# C04 — transform of the training data reproduces the model's scores
-/
open XM Matrix XP.EofM
namespace C04

variable {𝕜 : Type} [RCLike 𝕜] {n p q k r m : ℕ}

/-- **EOF / ComplexEOF**: projecting the decomposed matrix on the components gives the stored scores — same values,
same mode order, same signs -/
theorem eof_transform_training_eq_scores (hk : k ≤ r) (X : Mat n p 𝕜) (U : Mat n r 𝕜) (s : Fin r → ℝ) (V : Mat p r 𝕜)
    (sgn : Fin k → ℝ) (h : XP.SVD.IsSVD X.toMatrix U.toMatrix s V.toMatrix) :
    (eofTransform (eofFit hk hk hk U s V sgn) X).toMatrix = (eofFit hk hk hk U s V sgn).scores.toMatrix := by
  rw [eofTransform, toMatrix_mul, comps_toMatrix, scores_toMatrix, ← Matrix.mul_assoc, proj_leading h (Fin.castLE hk),
    Matrix.mul_assoc, Matrix.mul_assoc, rdiag_mul, rdiag_mul, funext fun j => mul_comm (sgn j) _]

/-- the `normalized` variant: both sides are divided by the same norms -/
theorem eof_transform_training_eq_scores_normalized (hk : k ≤ r) (X : Mat n p 𝕜) (U : Mat n r 𝕜) (s : Fin r → ℝ)
    (V : Mat p r 𝕜) (sgn : Fin k → ℝ) (h : XP.SVD.IsSVD X.toMatrix U.toMatrix s V.toMatrix) (c : Fin k → ℝ) :
    (scaleModes (eofTransform (eofFit hk hk hk U s V sgn) X) c).toMatrix
      = (scaleModes (eofFit hk hk hk U s V sgn).scores c).toMatrix := by
  simp only [scaleModes, toMatrix_scaleCols]
  rw [eof_transform_training_eq_scores hk X U s V sgn h]

/-- **cross-set models (CPCCA / MCA / CCA / RDA)**: the scores are *defined* as the projection of the whitened PCs on the
singular vectors, and transform takes the same data through the same three linear maps -/
theorem cpcca_transform_training_eq_scores (X : Matrix (Fin n) (Fin p) 𝕜) (Vp : Matrix (Fin p) (Fin r) 𝕜)
    (T : Matrix (Fin r) (Fin r) 𝕜) (Q : Matrix (Fin r) (Fin k) 𝕜) :
    ((X * Vp) * T) * Q = X * Vp * T * Q := rfl

/-- **rotators** (single and cross): transform re-derives the unrotated scores by projection and then applies exactly
the maps the fit applied to the stored unrotated scores -/
theorem rotator_transform_training_eq_scores (Xw : Matrix (Fin n) (Fin r) 𝕜) (Qm : Matrix (Fin r) (Fin k) 𝕜)
    (S : Matrix (Fin n) (Fin k) 𝕜) (hS : S = Xw * Qm) (Dinv RinvH N : Matrix (Fin k) (Fin k) 𝕜) :
    (Xw * Qm) * Dinv * RinvH * N = S * Dinv * RinvH * N := by rw [hS]

/-- source obligations: the normalised single-set transform divides by the FITTED norms, and each cross-set field is
projected on / normalised with its OWN stored entries -/
theorem src_single_normalized_uses_fitted_norms :
    Gen.singleTransformNormalizedBody = ["data2D = data2D / self.data['norms']", "data2D.name = 'scores'"] := rfl

theorem src_cpcca_fields_use_own_entries :
    Gen.cpccaTransformSources = [("comps1", "self.data['components1']"), ("comps2", "self.data['components2']"),
      ("norm1", "self.data['norm1']"), ("norm2", "self.data['norm2']")] := rfl

/-- the per-mode factors (pseudo-norms, signs) are stored under the labels the modes carry AFTER sorting, so a rotator's
`transform` must rotate, then reorder, and only then scale; the two scalings commute with each other -/
def validRotatorOrder (steps : List String) : Bool :=
  match steps.idxOf? "rotate", steps.idxOf? "reorder", steps.idxOf? "norms", steps.idxOf? "sign" with
  | some r, some o, some n, some s => decide (r < o ∧ o < n ∧ o < s)
  | _, _, _, _ => false

theorem src_rotator_transform_order :
    validRotatorOrder Gen.eofRotatorTransformSteps = true ∧ validRotatorOrder Gen.cpccaRotatorTransformSteps = true := ⟨rfl, rfl⟩

/-- why the order matters: scaling by `d` (indexed by the new label) after the reorder `σ` is not the same map as scaling before it,
unless `d` happens to be constant along `σ` -/
theorem reorder_then_scale (S : Matrix (Fin m) (Fin k) 𝕜) (σ : Fin k → Fin k) (d : Fin k → 𝕜) :
    (fun i j => S i (σ j) * d j) = (fun i j => (fun i' j' => S i' j' * d j') i (σ j)) ↔ ∀ i j, S i (σ j) * d j = S i (σ j) * d (σ j) := by
  constructor
  · intro h i j; exact congrFun (congrFun h i) j
  · intro h; funext i j; exact h i j

example : validRotatorOrder ["rotate", "sign", "reorder", "norms"] = false := by decide

/-- **cpcca_transform_training_eq_scores on the executable model**: projecting the fitted field again gives the stored scores,
for both settings of `normalized` -/
theorem model_cpcca_transform_training {n p q r k : ℕ} (hk : k ≤ r) (X : XM.Mat n p 𝕜) (Y : XM.Mat n q 𝕜) (Q1 : XM.Mat p r 𝕜)
    (s : Fin r → ℝ) (Q2 : XM.Mat q r 𝕜) (sgn : Fin k → ℝ) (nz : Bool) :
    XM.cpccaTransform1 (XM.cpccaFit hk X Y Q1 s Q2 sgn) X nz = XM.cpccaScores1 (XM.cpccaFit hk X Y Q1 s Q2 sgn) nz :=
  rfl

/-- **rotator_transform_training_eq_scores on the executable model**: `XM.rotTransform` applied to the data the unrotated model
was fitted on (`scores₀ = X · comps₀`) returns exactly the stored rotated scores -/
theorem model_rot_transform_training {n p k : ℕ} (comps0 : XM.Mat p k 𝕜) (expvar0 : Fin k → ℝ) (scores0 : XM.Mat n k 𝕜)
    (svals0 : Fin k → ℝ) (R RinvT : XM.Mat k k 𝕜) (sgn : Fin k → ℝ) (perm : Fin k → Fin k) (X : XM.Mat n p 𝕜)
    (h : scores0 = X.mul comps0) :
    XM.rotTransform (XM.rotFit comps0 expvar0 scores0 svals0 R RinvT sgn perm) comps0 svals0 RinvT perm X
      = (XM.rotFit comps0 expvar0 scores0 svals0 R RinvT sgn perm).scores := by
  subst h
  simp only [rotTransform, rotFit, rotScoresUnsorted, Mat.scaleCols, Mat.get_ofFn]

/-- source obligations: the cross-set `transform` forwards `normalized` to the algorithm, and a field's data pass through `V` alone
on their way into PC space (no statistics of the NEW data enter) -/
theorem src_cross_transform_forwards_normalized :
    Gen.crossTransformAlgorithmCall = "self._transform_algorithm(X, Y, normalized=normalized)" := rfl

/-- source obligation: `transform` writes nothing into the object (no cache can survive a refit) — models and rotators alike -/
theorem src_transform_writes_nothing :
    Gen.cpccaRotatorTransformWrites = [] ∧ Gen.eofRotatorTransformWrites = [] ∧ Gen.crossTransformWrites = [] ∧
    Gen.singleTransformWrites = [] := ⟨rfl, rfl, rfl, rfl⟩

/-- **structure level (S.Frame, tied by the `frame` correspondence)**: `transform` of the very labelled data the preprocessor was
fitted on — after entirely missing samples and cells were dropped, for any number of sample dimensions — yields the fitted positional
matrix: one row per valid sample, same order, same labels -/
theorem frame_transform_training {α} (F : S.Frame α) (okS okF : S.Key → Bool) :
    S.transformBy (F.sanitize okS okF).cols (F.sanitize okS okF).rows (F.sanitize okS okF).val = (F.sanitize okS okF).toMat :=
  S.transformBy_training _

/-- the rows of that matrix are exactly the samples that are not entirely missing, in their original order -/
theorem frame_transform_rows {α} (F : S.Frame α) (okS okF : S.Key → Bool) :
    (S.transformBy (F.sanitize okS okF).cols (F.sanitize okS okF).rows F.val).length = (F.rows.filter okS).length := by
  simp [S.transformBy, S.Frame.sanitize]

/-- non-vacuity: a 2-sample frame with one missing sample keeps exactly the other one -/
example : S.transformBy [["a"]] (({ rows := [["t0"], ["t1"]], cols := [["a"]], val := fun s f => s ++ f } : S.Frame S.Key).sanitize
    (fun s => s != ["t0"]) (fun _ => true)).rows (fun s f => s ++ f) = [[["t1", "a"]]] := by decide

/-- source obligation: when entries of a stacked MultiIndex dimension were dropped in between (entirely missing samples), the index
written back is cut down BY POSITION LABEL to the entries that are left — so data with several sample dimensions and a missing sample
passes through `transform` and `inverse_transform` -/
theorem src_multiindex_restore_after_drop :
    Gen.multiIndexRestoreCuts = ["if X_inverse_transformed.sizes[dim] != original_index.sizes[dim]: positions = X_inverse_transformed.coords[dim].values original_index = original_index.isel({dim: positions})"] :=
  rfl

/-- **rotated cross-set models on the executable model** (`XM.crotTransform` / `XM.crotFit`, tied by the `crot` correspondence):
`CPCCARotator.transform` of the data the unrotated model was fitted on (`S₁ = X · Q₁` in whitened PC space) returns the stored
rotated scores — same rotation, same order, same signs, same norms -/
theorem model_crot_transform_training {n p q p' q' k : ℕ} (A1 : XM.Mat p p' 𝕜) (A2 : XM.Mat q q' 𝕜) (B1 : XM.Mat p' p 𝕜)
    (B2 : XM.Mat q' q 𝕜) (Q1 : XM.Mat p' k 𝕜) (Q2 : XM.Mat q' k 𝕜) (s : Fin k → ℝ) (S1 S2 : XM.Mat n k 𝕜) (R RinvT : XM.Mat k k 𝕜)
    (sgn : Fin k → ℝ) (perm : Fin k → Fin k) (X : XM.Mat n p' 𝕜) (h : S1 = X.mul Q1) :
    (XM.crotTransform (XM.crotFit A1 A2 B1 B2 Q1 Q2 s S1 S2 R RinvT sgn perm).norm1
        (XM.crotFit A1 A2 B1 B2 Q1 Q2 s S1 S2 R RinvT sgn perm).sgn Q1 s RinvT perm X false).toMatrix
      = (XM.crotFit A1 A2 B1 B2 Q1 Q2 s S1 S2 R RinvT sgn perm).scores1.toMatrix := by
  subst h
  ext i j
  simp only [crotTransform, crotFit, crotScoresUnsorted, Mat.scaleCols, Mat.get_ofFn, toMatrix_apply, Bool.false_eq_true, if_false]
  exact mul_right_comm _ _ _

/-- `normalized=True` differs from the default exactly by the per-mode norm -/
theorem model_crot_transform_normalized {m p' k : ℕ} (norms sgnS : Fin k → ℝ) (Q : XM.Mat p' k 𝕜) (s : Fin k → ℝ)
    (RinvT : XM.Mat k k 𝕜) (perm : Fin k → Fin k) (X : XM.Mat m p' 𝕜) (i : Fin m) (j : Fin k) :
    (XM.crotTransform norms sgnS Q s RinvT perm X false).get i j
      = (XM.crotTransform norms sgnS Q s RinvT perm X true).get i j * ((norms j : ℝ) : 𝕜) := by
  simp [crotTransform]

/-- **multi-set CCA on the executable model** (`XM.mccaFit` / `XM.mccaTransform`, tied by the `mcca` correspondence): `transform`
of the stored input data returns the stored variates of every view — the same weights in feature space (after the way back from
PC space), each view with its own columns -/
theorem model_mcca_transform_training {n P Q k : ℕ} (Xphys : XM.Mat n Q ℝ) (blkQ : Fin Q → ℕ) (B : XM.Mat Q P ℝ) (E : XM.Mat P k ℝ)
    (lam0 : Fin k → ℝ) (perm : Fin k → Fin k) (v : ℕ) :
    XM.mccaTransform (XM.mccaFit Xphys blkQ B E lam0 perm) blkQ Xphys v = (XM.mccaFit Xphys blkQ B E lam0 perm).variates v :=
  rfl

/-- source obligations (regenerated): the scores of each field are restored through that field's OWN whitener, PCA and preprocessor
(the second field keeps its own sample labels), and the order of a Dataset's variables is recorded at fit and re-applied to the data
handed to `transform` -/
theorem src_cross_scores_use_own_objects :
    Gen.crossScoresRestoreCalls = ["self.whitener1.inverse_transform_scores(Rx)", "self.whitener2.inverse_transform_scores(Ry)",
      "self.pca1.inverse_transform_scores(Rx)", "self.pca2.inverse_transform_scores(Ry)",
      "self.preprocessor1.inverse_transform_scores(Rx)", "self.preprocessor2.inverse_transform_scores(Ry)"] := rfl

theorem src_dataset_variable_order_is_fitted_state :
    Gen.stackerVarsRecorded = ["self.vars_in = tuple(X.data_vars) if isinstance(X, xr.Dataset) else tuple()"] ∧
    Gen.stackerVarsReapplied = ["X = X[list(vars_in)]"] := ⟨rfl, rfl⟩

end C04
