import XeofsModel.History
import XeofsModel.History2
import XeofsModel.Generated.Facts
/-!
# C14 — a model's answers depend only on its last fit, never on call history

`H2.step` is the state machine of one model object; the facts about what `fit` overwrites, what `transform` and
rotators write are REGENERATED from the source (`H2.current`).
-/
namespace C14
open H2

/-- source obligations: every fact the theorems below need holds in the current tree -/
theorem src_facts_good : H2.current = H2.good := rfl

/-- **fit_overwrites**: the fitted part after `fit id n` is a function of that call alone -/
theorem fit_overwrites (s : St) (id n : Nat) : prov (step good s (.fit id n)).1 = freshProv id n ++ s.relabelled := by
  simp [step, good, prov, freshProv]

/-- **queries_frame**: no other call changes what fitted-data answers are computed from -/
theorem queries_frame (s : St) (op : Op) (h : isFit op = false) : prov (step good s op).1 = prov s := by
  cases op <;> simp_all [step, good, prov, isFit]

theorem relabelled_stays_empty (s : St) (op : Op) (h : s.relabelled = []) : (step good s op).1.relabelled = [] := by
  cases op <;> simp_all [step, good]

theorem run_relabelled_empty (s : St) (ops : List Op) (h : s.relabelled = []) : (run good s ops).1.relabelled = [] := by
  induction ops generalizing s with
  | nil => simpa [run]
  | cons op ops ih => simp only [run]; exact ih _ (relabelled_stays_empty s op h)

theorem run_nofit_prov (s : St) (post : List Op) (hpost : noFit post = true) : prov (run good s post).1 = prov s := by
  induction post generalizing s with
  | nil => simp [run]
  | cons op ops ih =>
    simp only [noFit, List.all_cons, Bool.and_eq_true, Bool.not_eq_true'] at hpost
    simp only [run]
    rw [ih _ (by simpa [noFit] using hpost.2), queries_frame s op hpost.1]

/-- answers of non-fit calls: the provenance of the state they were asked in (plus the call's own argument for transform) -/
theorem step_answer (s : St) (op : Op) (h : isFit op = false) :
    (step good s op).2 = [] ∨ (step good s op).2 = prov s ∨ ∃ t, (step good s op).2 = prov s ++ [1000 + t] := by
  cases op <;> simp_all [step, good, isFit]

/-- **last_fit_determines**: for every finite history, every answer given after the last `fit id n` is computed from
exactly what a fresh model fitted with that call would use — whatever was called before or in between
(queries, transforms of other data, inverse transforms, compute, serialize, rotator/bootstrapper fits) -/
theorem last_fit_determines (pre post : List Op) (id n : Nat) (hpost : noFit post = true) :
    ∀ o ∈ (run good (run good init (pre ++ [.fit id n])).1 post).2,
      o = [] ∨ o = freshProv id n ∨ ∃ t, o = freshProv id n ++ [1000 + t] := by
  have hs : ∀ s, s.relabelled = [] → prov (run good s (pre ++ [.fit id n])).1 = freshProv id n := by
    induction pre with
    | nil => intro s h; simp [run, fit_overwrites, h]
    | cons op ops ih =>
      intro s h; simp only [List.cons_append, run]; exact ih _ (relabelled_stays_empty s op h)
  have key : ∀ (post : List Op) (s : St), noFit post = true → prov s = freshProv id n →
      ∀ o ∈ (run good s post).2, o = [] ∨ o = freshProv id n ∨ ∃ t, o = freshProv id n ++ [1000 + t] := by
    intro post
    induction post with
    | nil => intro s _ _ o ho; simp [run] at ho
    | cons op ops ih =>
      intro s hp hprov o ho
      simp only [noFit, List.all_cons, Bool.and_eq_true, Bool.not_eq_true'] at hp
      simp only [run, List.mem_cons] at ho
      rcases ho with rfl | ho
      · rcases step_answer s op hp.1 with h | h | ⟨t, h⟩
        · left; exact h
        · right; left; rw [h, hprov]
        · right; right; exact ⟨t, by rw [h, hprov]⟩
      · exact ih (step good s op).1 (by simpa [noFit] using hp.2) (by rw [queries_frame s op hp.1, hprov]) o ho
  exact key post _ hpost (hs init rfl)

/-- **rotator_bootstrap_read_only**: fitting a rotator or bootstrapper on a model leaves the model's state untouched -/
theorem rotator_bootstrap_read_only (s : St) (id : Nat) :
    (step good s (.rotatorFit id)).1 = s ∧ (step good s (.bootstrapFit id)).1 = s := by
  simp [step, good]

/-- the same statement for the facts of the CURRENT tree -/
theorem last_fit_determines_current (pre post : List Op) (id n : Nat) (hpost : noFit post = true) :
    ∀ o ∈ (run current (run current init (pre ++ [.fit id n])).1 post).2,
      o = [] ∨ o = freshProv id n ∨ ∃ t, o = freshProv id n ++ [1000 + t] := by
  rw [src_facts_good]; exact last_fit_determines pre post id n hpost

-- with the code as it was before the repairs each broken fact refutes the property on a concrete history
example : (run { good with listFitResets := false } init [.fit 1 1, .fit 2 1, .query]).2.getLast? = some [1, 2, 2, 2, 2] := by decide
example : (run { good with miSeparate := false } init [.fit 1 1, .transform 7, .query]).2.getLast? = some [1, 1, 1, 1, 1007] := by decide
example : (run { good with addCopies := false } init [.fit 1 1, .rotatorFit 5, .query]).2.getLast? = some [1, 1, 1, 1, 1, 5] := by decide
example : (run { good with fitResetsSorted := false } init [.fit 1 1, .fit 2 1, .query]).2.getLast? = some [2, 2, 1, 2, 2] := by decide
example : (run good init [.fit 1 1, .transform 7, .rotatorFit 5, .fit 2 2, .serialize, .query]).2.getLast? = some (freshProv 2 2) := by decide

/-- source obligations: `Sanitizer.transform` writes nothing of the fitted state except the (computed) validity mask, and the
rotators never write into (views of) the model's arrays in place -/
theorem src_transform_and_rotators_read_only :
    Gen.sanitizerTransformWrites = ["self.is_valid_feature"] ∧ Gen.rotatorFitInPlaceOps = [] := ⟨rfl, rfl⟩

/-- source obligation: no public accessor writes an attribute (such as `.name`) of an array it took directly out of the result
container — a query leaves the stored entries as they are -/
theorem src_accessors_do_not_write_stored_arrays : Gen.accessorsWritingStoredArrays = [] := rfl

end C14
