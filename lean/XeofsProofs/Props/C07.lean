import XeofsProofs.Bridge
import XeofsModel.Frame
import XeofsModel.Generated.Facts
import XeofsProofs.Lemmas.SVDSpec
import XeofsProofs.Lemmas.Columns
import XeofsProofs.Lemmas.Phase
import XeofsProofs.Props.C15
/-!
# C07 — results do not depend on how the same data is laid out or named
-/
open Matrix
namespace C07
open S

variable {𝕜 : Type} [RCLike 𝕜] {n p r : ℕ}

/-- **relayout_frame**: transposing dimensions, permuting the feature order, re-partitioning the features over variables
or list items permutes the COLUMN KEYS of the frame and nothing else; reading by label is unaffected -/
theorem relayout_frame {α} (F : Frame α) (cols' : List Key) (d : α) (s f : Key) (hs : s ∈ F.rows) (hf : f ∈ cols') :
    readBack F.rows cols' ({ F with cols := cols' } : Frame α).toMat d s f = F.val s f :=
  S.roundtrip { F with cols := cols' } d s f hs hf

/-- **svd_spec_equivariant**: a valid decomposition of `X`, re-laid-out, is a valid decomposition of the re-laid-out `X`
(`P`: sample permutation, `Q`: feature permutation — any unitary matrices): same singular values, components moved with
their labels, scores moved with their samples -/
theorem svd_spec_equivariant {X : Matrix (Fin n) (Fin p) 𝕜} {U : Matrix (Fin n) (Fin r) 𝕜} {s : Fin r → ℝ}
    {V : Matrix (Fin p) (Fin r) 𝕜} (h : XP.SVD.IsSVD X U s V)
    (P : Matrix (Fin n) (Fin n) 𝕜) (Q : Matrix (Fin p) (Fin p) 𝕜) (hP : Pᴴ * P = 1) (hQ : Q * Qᴴ = 1) :
    XP.SVD.IsSVD (P * X * Q) (P * U) s (Qᴴ * V) where
  hU := by rw [gram_mul, hP, Matrix.mul_one, h.hU]
  hV := by rw [gram_mul, conjTranspose_conjTranspose, hQ, Matrix.mul_one, h.hV]
  hX := by
    rw [h.hX, conjTranspose_mul, conjTranspose_conjTranspose, ← Matrix.mul_assoc, ← Matrix.mul_assoc, ← Matrix.mul_assoc]
  nonneg := h.nonneg
  anti := h.anti

/-- **eigvec_unique_up_to_phase**: with a simple spectrum two decompositions of the same covariance differ by one unit
scalar per mode (a sign for real data) — the freedom the sign rule removes -/
theorem eigvec_unique_up_to_phase (V V' : Matrix (Fin p) (Fin p) 𝕜) (d : Fin p → ℝ) (hd : StrictAnti d)
    (hV : V * Vᴴ = 1) (hV' : V'ᴴ * V' = 1)
    (h : V * diagonal (fun i => (d i : 𝕜)) * Vᴴ = V' * diagonal (fun i => (d i : 𝕜)) * V'ᴴ) :
    ∃ θ : Fin p → 𝕜, (∀ j, star (θ j) * θ j = 1) ∧ V' = V * diagonal θ :=
  XP.Phase.eigvec_unique_up_to_phase V V' d hd hV hV' h

theorem real_phase_is_sign (θ : ℝ) (h : star θ * θ = 1) : θ = 1 ∨ θ = -1 :=
  mul_self_eq_one_iff.mp (by rwa [star_trivial] at h)

/-- **sign_rule_invariant**: the sign multiplier is a function of the column's maximum and minimum, which do not change
when the loadings are permuted -/
theorem sign_rule_invariant (l₁ l₂ : List Int) (h : l₁.Perm l₂) (a : Int) :
    Gen.signRuleXarray (l₁.foldl max a) (l₁.foldl min a) = Gen.signRuleXarray (l₂.foldl max a) (l₂.foldl min a) := by
  have e1 : l₁.foldl max a = l₂.foldl max a :=
    h.foldl_eq' (fun x _ y _ z => by simp only [max_assoc, max_comm x y]) a
  have e2 : l₁.foldl min a = l₂.foldl min a :=
    h.foldl_eq' (fun x _ y _ z => by simp only [min_assoc, min_comm x y]) a
  rw [e1, e2]

/-- **names_irrelevant**: the model classes never address a dimension by the literal names 'sample' / 'feature'
(source obligation over xeofs/single, xeofs/cross and xeofs/validation, regenerated on every run) -/
theorem src_no_literal_dimension_names : Gen.literalDimUses = [] := rfl

/-- generic names are given to the sample dimensions first, in the user's order — independent of the storage order of
each list element -/
theorem src_renamer_independent_of_storage_order :
    Gen.renamerOrderedDims = "[*sample_dims, *[d for d in X.dims if d not in sample_dims]]" := rfl

/-- source obligation: list items are joined along the feature dimension with xarray's default alignment BY LABEL
(no `join="override"`, which would pair samples by position) -/
theorem src_concat_aligns_by_label : Gen.concatenatorConcatKwargs = [("dim", "self.feature_name")] := rfl

/-- source obligation: the PCA pre-reduction keeps the deterministic sign convention of its basis (it does not switch `flip_signs`
off), so the orientation of an intermediate basis cannot leak into the signs of the final modes -/
theorem src_pca_keeps_sign_convention : Gen.pcaToSVD.lookup "flip_signs" = none ∧ Gen.svdWrapperToSVD.lookup "flip_signs" = some "self.flip_signs" :=
  ⟨rfl, rfl⟩

/-- source obligation: both whiteners of a cross-set model are told the model's sample and feature dimension names -/
theorem src_whiteners_get_dimension_names :
    Gen.crossWhitener1.lookup "sample_name" = some "sample_name" ∧ Gen.crossWhitener2.lookup "sample_name" = some "sample_name" ∧
    Gen.crossWhitener1.lookup "feature_name" = some "feature_name[0]" ∧ Gen.crossWhitener2.lookup "feature_name" = some "feature_name[1]" :=
  ⟨rfl, rfl, rfl, rfl⟩

/-- source obligation: POP's PCA step is told the model's dimension names -/
theorem src_pop_pca_gets_dimension_names :
    Gen.popPCA.lookup "sample_name" = some "sample_name" ∧ Gen.popPCA.lookup "feature_name" = some "feature_name" := ⟨rfl, rfl⟩

end C07
