import XeofsProofs.Bridge
import XeofsProofs.Lemmas.Rot
import XeofsProofs.Lemmas.Misc13
import XeofsProofs.Props.C15
import XeofsModel.Generated.Facts
import XeofsProofs.Lemmas.RotModel
import XeofsProofs.Lemmas.CrotModel
/-!
# C11 — rotation re-expresses the retained subspace without changing what it represents

The converged rotation matrix is an ORACLE (`R`, with `Rinv * R = 1`); everything xeofs does with it is modelled.
-/
open Matrix
namespace C11

variable {𝕜 : Type} [RCLike 𝕜] {n p k : ℕ}

/-- **rot_reconstruction**: for ANY invertible `R` (Varimax or Promax), any real non-zero re-scaling `ν` (the pseudo-norms),
any re-ordering and sign pattern `Q` (a unitary permutation/sign matrix): rotated scores times rotated components
reconstruct exactly what the `k` unrotated modes reconstruct. The scores MUST be rotated with `(R⁻¹)ᴴ`. -/
theorem rot_reconstruction (U : Matrix (Fin n) (Fin k) 𝕜) (L : Matrix (Fin p) (Fin k) 𝕜)
    (R Rinv Q : Matrix (Fin k) (Fin k) 𝕜) (ν : Fin k → 𝕜) (hν : ∀ j, ν j ≠ 0)
    (hR : Rinv * R = 1) (hQ : Q * Qᴴ = 1) (hνreal : ∀ j, star (ν j) = ν j) :
    let comps  := L * R * diagonal (fun j => (ν j)⁻¹) * Q
    let scores := U * Rinvᴴ * diagonal ν * Q
    scores * compsᴴ = U * Lᴴ :=
  XP.Rot.rot_reconstruction U L R Rinv Q ν hν hR hQ hνreal

/-- for a unitary rotation (Varimax) `(R⁻¹)ᴴ = R`, which is why the source may skip the inversion when `power = 1` -/
theorem unitary_inverse_conjTranspose (R : Matrix (Fin k) (Fin k) 𝕜) (hR : Rᴴ * R = 1) : (Rᴴ)ᴴ = R ∧ Rᴴ * R = 1 :=
  ⟨conjTranspose_conjTranspose R, hR⟩

/-- **varimax_R_unitary**: every iterate `U Vᴴ` (polar factor of the gradient) is unitary, by induction over the loop -/
theorem varimax_iter_unitary (step : Matrix (Fin k) (Fin k) 𝕜 → Matrix (Fin k) (Fin k) 𝕜)
    (hstep : ∀ R, (step R)ᴴ * step R = 1) (m : ℕ) :
    ((step^[m]) (1 : Matrix (Fin k) (Fin k) 𝕜))ᴴ * (step^[m]) 1 = 1 :=
  XP.M13.varimax_iter_unitary step hstep m

theorem polar_factor_unitary (U V : Matrix (Fin k) (Fin k) 𝕜) (hU : Uᴴ * U = 1) (hV : V * Vᴴ = 1) :
    (U * Vᴴ)ᴴ * (U * Vᴴ) = 1 := by
  rw [conjTranspose_mul, conjTranspose_conjTranspose, Matrix.mul_assoc, ← Matrix.mul_assoc Uᴴ, hU, Matrix.one_mul, hV]

/-- **promax_power_one_is_varimax**: with power 1 the Procrustes target is the Varimax solution itself -/
theorem promax_power_one (X : Matrix (Fin p) (Fin k) 𝕜) (D : Matrix (Fin k) (Fin k) 𝕜)
    (G : Matrix (Fin k) (Fin k) 𝕜) (hG : G * (Xᴴ * X) = 1) :
    G * Xᴴ * (X * D) = D :=
  XP.M13.promax_power_one X D G hG

/-- **rot_scores_orthonormal** (power 1): normalised scores `U R` stay orthonormal under a unitary rotation -/
theorem rot_scores_orthonormal (U : Matrix (Fin n) (Fin k) 𝕜) (R : Matrix (Fin k) (Fin k) 𝕜)
    (hU : Uᴴ * U = 1) (hR : Rᴴ * R = 1) : (U * R)ᴴ * (U * R) = 1 := by
  rw [conjTranspose_mul, Matrix.mul_assoc, ← Matrix.mul_assoc Uᴴ, hU, Matrix.one_mul, hR]

/-- **rot_expvar_sum**: a unitary rotation preserves the summed explained variance `tr(LᴴL)` of the loadings -/
theorem rot_expvar_sum (L : Matrix (Fin p) (Fin k) 𝕜) (R : Matrix (Fin k) (Fin k) 𝕜) (hR : R * Rᴴ = 1) :
    trace ((L * R)ᴴ * (L * R)) = trace (Lᴴ * L) := by
  rw [conjTranspose_mul, Matrix.mul_assoc, trace_mul_comm, Matrix.mul_assoc, Matrix.mul_assoc, hR, Matrix.mul_one,
    trace_mul_comm]

/-- **rot_sorted**: sorting by descending explained variance (a merge sort of the values) gives a descending list that
is a permutation of the input -/
theorem rot_sorted (ev : List ℝ) :
    (ev.mergeSort (fun a b => decide (b ≤ a))).Pairwise (fun a b => b ≤ a) ∧
    (ev.mergeSort (fun a b => decide (b ≤ a))).Perm ev := by
  constructor
  · have := List.pairwise_mergeSort (le := fun a b : ℝ => decide (b ≤ a))
      (by intro a b c hab hbc; simp only [decide_eq_true_eq] at *; exact le_trans hbc hab)
      (by intro a b; simp only [Bool.or_eq_true, decide_eq_true_eq]; exact le_total b a) ev
    exact this.imp (by intro a b h; simpa using h)
  · exact List.mergeSort_perm ev _

/-- **rot_sign_rule**: the rotated modes get the same deterministic sign convention (C15) -/
theorem rot_sign_rule (mx mn : Int) (h : mn ≤ mx) :
    0 ≤ Gen.signRuleXarray mx mn * C15.bigEntry mx mn := (C15.sign_rule_xarray mx mn h).1

/-- source obligations: the scores are rotated with the inverse CONJUGATE transpose exactly when `power > 1`
(for `power = 1` the rotation is unitary), in both rotator families; the rotated norms use `n − 1` -/
theorem src_inverse_transpose_guard (power : Int) :
    (Gen.rotatorSingleUsesInverse power = decide (power > 1)) ∧ (Gen.rotatorCrossUsesInverse power = decide (power > 1)) ∧
    Gen.rotatorSingleInverseIsConjTranspose = true ∧ Gen.rotatorCrossInverseIsConjTranspose = true := by
  refine ⟨rfl, rfl, ?_, ?_⟩ <;> decide

theorem src_rotator_norm (ev nn : ℝ) : Gen.rotatorNorm ev nn = Real.sqrt (ev * (nn - 1)) := by
  rw [Gen.rotatorNorm, Num.sqrt_real, Num.ofNat_real, Nat.cast_one]

/-- source obligation for `rot_sorted` after a refit: every rotator fit clears the flag that guards the re-sorting -/
theorem src_rotator_fit_resets_sorted : Gen.eofRotatorFitResetsSorted = true ∧ Gen.cpccaRotatorFitResetsSorted = true :=
  ⟨rfl, rfl⟩

/-- **rot_reconstruction on the executable model** (`XM.rotFit`, the definition the driver runs next to
`EOFRotator._fit_algorithm`): for every rotation matrix `R` with `RinvT = (R⁻¹)ᴴ`, every ±1 sign choice and every ordering `σ`
of the modes, reconstructing from the rotated scores and components gives `scores₀ · comps₀ᴴ`, the reconstruction from the same
number of unrotated modes. The generated formulas enter through `Gen.rotatorLoadingScale`, `Gen.rotatorNorm`, `Gen.eofExpVar`. -/
theorem model_rot_reconstruction {n p k : ℕ} (comps0 : XM.Mat p k 𝕜) (expvar0 : Fin k → ℝ) (scores0 : XM.Mat n k 𝕜)
    (svals0 : Fin k → ℝ) (R RinvT : XM.Mat k k 𝕜) (sgn : Fin k → ℝ) (σ : Fin k ≃ Fin k)
    (hR : (RinvT.toMatrix)ᴴ * R.toMatrix = 1) (hsgn : ∀ j, sgn j * sgn j = 1)
    (hev : ∀ j, XM.rotExpvar (ρ := ℝ) (XM.rotLoadings comps0 expvar0 R) j ≠ 0)
    (hn : 1 < n) (hsv : ∀ j, 0 < svals0 j) (hexp : ∀ j, expvar0 j = Gen.eofExpVar (svals0 j) (n : ℝ)) :
    (XM.rotInverse (XM.rotFit comps0 expvar0 scores0 svals0 R RinvT sgn σ)
        (XM.rotFit comps0 expvar0 scores0 svals0 R RinvT sgn σ).scores).toMatrix
      = scores0.toMatrix * (comps0.toMatrix)ᴴ := by
  have hn1 : 0 < Real.sqrt ((n : ℝ) - 1) := Real.sqrt_pos.mpr (sub_pos.mpr (Nat.one_lt_cast.mpr hn))
  have hRR : RinvT.toMatrix * (R.toMatrix)ᴴ = 1 := by
    rw [← conjTranspose_conjTranspose RinvT.toMatrix, ← conjTranspose_mul, mul_eq_one_comm.mp hR, conjTranspose_one]
  rw [XM.rotInverse, toMatrix_mul, toMatrix_conjT, XP.RotM.comps_toMatrix, XP.RotM.scores_toMatrix, XP.RotM.rotComps_toMatrix,
    XP.RotM.rotLoadings_toMatrix, XP.RotM.rotScoresUnsorted_toMatrix]
  refine XP.Rot.rdiag_rot_cancel _ _ _ _ _ _ _ _ _ (Real.sqrt ((n : ℝ) - 1)) hRR (XP.EofM.signPerm_unitary sgn hsgn σ)
    (fun j => ?_) (fun j => ?_)
  · -- pseudo-norm over the root of the rotated variance
    have he : Real.sqrt (XM.rotExpvar (ρ := ℝ) (XM.rotLoadings comps0 expvar0 R) j) ≠ 0 :=
      (Real.sqrt_ne_zero (XP.RotM.rotExpvar_nonneg _ j)).mpr (hev j)
    rw [XP.RotM.rotNorms_eq, mul_right_comm, mul_inv_cancel₀ he, one_mul]
  · -- loading scale over singular value: `√(s²/(n−1)) = s/√(n−1)`
    rw [hexp j, XP.RotM.rotatorLoadingScale_eofExpVar (hsv j).le, inv_mul_eq_div, div_mul_div_comm, mul_comm,
      div_self (mul_ne_zero (hsv j).ne' hn1.ne')]

/-- the rotated explained variances of the model are non-negative (sums of squared moduli) -/
theorem model_rot_expvar_nonneg {p k : ℕ} (L : XM.Mat p k 𝕜) (j : Fin k) : 0 ≤ XM.rotExpvar (ρ := ℝ) L j :=
  XP.RotM.rotExpvar_nonneg L j

/-- source obligation: rotated cross-set modes are ordered by their squared covariance `(norm1 · norm2)²` -/
theorem src_cross_rotator_sort_key :
    Gen.cpccaRotatorSortKey = ["argsort_dask(squared_covariance, 'mode')[::-1]", "explained_covariance ** 2", "norm1_rot * norm2_rot"] :=
  rfl

/-- **rotated cross-set models (CPCCARotator, MCARotator, complex variants) on the executable model `XM.crotFit`** — tied by the
`crot` correspondence. The reconstruction of the first field from the rotated, signed and sorted scores and vectors equals
`S₁ Q₁ᴴ`, the one from the same number of unrotated modes, for Varimax and Promax alike. Hypotheses: going to physical space and
back is the identity (`B₁ A₁ = 1`), `RinvT` is `(R⁻¹)ᴴ` (oracle specification), signs ±1, the order a permutation, no rotated
pattern null, singular values positive. -/
theorem model_crot_reconstruction {n p q p' q' k : ℕ} (A1 : XM.Mat p p' 𝕜) (A2 : XM.Mat q q' 𝕜) (B1 : XM.Mat p' p 𝕜)
    (B2 : XM.Mat q' q 𝕜) (Q1 : XM.Mat p' k 𝕜) (Q2 : XM.Mat q' k 𝕜) (s : Fin k → ℝ) (S1 S2 : XM.Mat n k 𝕜) (R RinvT : XM.Mat k k 𝕜)
    (sgn : Fin k → ℝ) (σ : Fin k ≃ Fin k)
    (hBA : B1.toMatrix * A1.toMatrix = 1) (hR : (RinvT.toMatrix)ᴴ * R.toMatrix = 1) (hsgn : ∀ j, sgn j * sgn j = 1)
    (hnz : ∀ j, XM.crotNorms (ρ := ℝ) (B1.mul (XM.topRows (XM.crotLoadings A1 A2 Q1 Q2 s R))) j ≠ 0) (hs : ∀ j, 0 < s j) :
    (XM.crotFit A1 A2 B1 B2 Q1 Q2 s S1 S2 R RinvT sgn σ).scores1.toMatrix
        * ((XM.crotFit A1 A2 B1 B2 Q1 Q2 s S1 S2 R RinvT sgn σ).comps1.toMatrix)ᴴ
      = S1.toMatrix * (Q1.toMatrix)ᴴ := by
  have hRR : RinvT.toMatrix * (R.toMatrix)ᴴ = 1 := by
    rw [← conjTranspose_conjTranspose RinvT.toMatrix, ← conjTranspose_mul, mul_eq_one_comm.mp hR, conjTranspose_one]
  -- back in whitened PC space the rotated loadings are `Q₁ diag(√s) R`
  have hX1 : (B1.mul (XM.topRows (XM.crotLoadings A1 A2 Q1 Q2 s R))).toMatrix
      = Q1.toMatrix * XP.EofM.rdiag (fun j => Real.sqrt (s j)) * R.toMatrix := by
    rw [toMatrix_mul, XP.CrotM.topRows_crotLoadings, ← Matrix.mul_assoc, ← Matrix.mul_assoc, ← Matrix.mul_assoc, hBA,
      Matrix.one_mul]
  rw [XP.CrotM.comps1_toMatrix, XP.CrotM.scores1_toMatrix, XP.CrotM.crotScoresUnsorted_toMatrix,
    XP.EofM.toMatrix_divCols_rdiag, hX1]
  exact XP.Rot.rdiag_rot_cancel _ _ _ _ _ _ _ _ _ 1 hRR (XP.EofM.signPerm_unitary sgn hsgn σ)
    (fun j => mul_inv_cancel₀ (hnz j)) (fun j => by rw [mul_one, inv_mul_cancel₀ (Real.sqrt_pos.mpr (hs j)).ne'])

/-- the rotated vectors of a cross-set model are unit vectors in the whitened PC space -/
theorem model_crot_unit_vectors {p k : ℕ} (X : XM.Mat p k 𝕜) (j : Fin k) (h : XM.crotNorms (ρ := ℝ) X j ≠ 0) :
    ∑ i, RCLike.normSq ((X.divCols (XM.crotNorms (ρ := ℝ) X)).get i j) = 1 := by
  have hc : XM.crotNorms (ρ := ℝ) X j * XM.crotNorms (ρ := ℝ) X j = ∑ i, RCLike.normSq (X.get i j) :=
    (Real.mul_self_sqrt (XP.RotM.rotExpvar_nonneg X j)).trans (XP.RotM.colSqSums_eq X j)
  have hn : RCLike.normSq ((XM.crotNorms (ρ := ℝ) X j : ℝ) : 𝕜) = XM.crotNorms (ρ := ℝ) X j * XM.crotNorms (ρ := ℝ) X j := by
    simp [RCLike.normSq_apply]
  simp only [XM.Mat.divCols, XM.Mat.get_ofFn, Entry.divReal_eq, RCLike.normSq_div, hn]
  rw [← Finset.sum_div, ← hc]
  exact div_self (mul_ne_zero h h)

/-- non-vacuity of the hypotheses: the 1×1 identity rotation on one positive singular value satisfies all of them -/
example : ((1 : Matrix (Fin 1) (Fin 1) ℝ))ᴴ * (1 : Matrix (Fin 1) (Fin 1) ℝ) = 1 ∧ (1 : ℝ) * 1 = 1 ∧ (0 : ℝ) < 2 := by
  simp

end C11
