import XeofsProofs.Bridge
import XeofsProofs.Lemmas.Scale
import XeofsProofs.Lemmas.SpecPow
import XeofsProofs.Lemmas.Corr
import XeofsProofs.Lemmas.CpccaModel
import XeofsModel.Generated.Facts
/-!
# C09 — cross-set models diagonalise the (partially whitened) cross-covariance
-/
open Matrix
namespace C09

variable {𝕜 : Type} [RCLike 𝕜] {n p q r : ℕ}

/-- **scores_cross_cov_diag**: if `(Q1, σ, Q2)` is an SVD of the cross-covariance `c • XwᴴYw` of the whitened fields
(`c = 1/(n−1)`, generated), the two score sets `Xw Q1`, `Yw Q2` have the diagonal cross-covariance `diag σ` -/
theorem scores_cross_cov_diag (Xw : Matrix (Fin n) (Fin p) 𝕜) (Yw : Matrix (Fin n) (Fin q) 𝕜)
    (Q1 : Matrix (Fin p) (Fin r) 𝕜) (Q2 : Matrix (Fin q) (Fin r) 𝕜) (σ : Fin r → ℝ) (c : 𝕜)
    (h : XP.Scale.IsSVD (c • (Xwᴴ * Yw)) Q1 σ Q2) :
    c • ((Xw * Q1)ᴴ * (Yw * Q2)) = diagonal (fun i => (σ i : 𝕜)) :=
  XP.Scale.scores_cross_cov_diag Xw Yw Q1 Q2 σ c h

/-- **sigma_nonneg_antitone** is part of the solver's specification -/
theorem sigma_nonneg_antitone {C : Matrix (Fin p) (Fin q) 𝕜} {Q1 : Matrix (Fin p) (Fin r) 𝕜} {σ : Fin r → ℝ}
    {Q2 : Matrix (Fin q) (Fin r) 𝕜} (h : XP.Scale.IsSVD C Q1 σ Q2) : (∀ i, 0 ≤ σ i) ∧ Antitone σ :=
  ⟨h.nonneg, h.anti⟩

/-- **sigma_proportional**: whitening with covariances normalised by `n` instead of `n − 1` (eigenvalues scaled by
`c = (n−1)/n`) changes the whitened cross-covariance by the scalar `c^a · c^b`, `a = (α_x−1)/2`, `b = (α_y−1)/2` —
a factor that depends on the sample count and alpha only, and is 1 for MCA (`a = b = 0`) -/
theorem sigma_proportional (Vx : Matrix (Fin p) (Fin p) 𝕜) (Vy : Matrix (Fin q) (Fin q) 𝕜)
    (sx : Fin p → ℝ) (sy : Fin q → ℝ) (hsx : ∀ i, 0 ≤ sx i) (hsy : ∀ i, 0 ≤ sy i)
    (C : Matrix (Fin p) (Fin q) 𝕜) (c : ℝ) (hc : 0 ≤ c) (αx αy : ℝ) :
    (XP.SpecPow.specPow Vx (fun i => c * sx i) (Gen.whitenerPower αx))ᴴ * C
        * XP.SpecPow.specPow Vy (fun i => c * sy i) (Gen.whitenerPower αy)
      = ((c ^ (Gen.whitenerPower αx) * c ^ (Gen.whitenerPower αy) : ℝ) : 𝕜)
        • ((XP.SpecPow.specPow Vx sx (Gen.whitenerPower αx))ᴴ * C * XP.SpecPow.specPow Vy sy (Gen.whitenerPower αy)) :=
  XP.SpecPow.whitened_cross_cov_scale Vx Vy sx sy hsx hsy C c hc _ _

theorem sigma_factor_mca (c : ℝ) : c ^ (Gen.whitenerPower (1 : ℝ)) * c ^ (Gen.whitenerPower (1 : ℝ)) = 1 := by
  simp [Gen.whitenerPower]

/-- **mca_scf**: removing one singular triplet from both sides of `C` leaves `C − σ u vᴴ`; hence the squared
covariance explained by mode `i` is `σ_i²` of `‖C‖_F²` -/
theorem mca_residual (C : Matrix (Fin p) (Fin q) 𝕜) (u : Matrix (Fin p) (Fin 1) 𝕜) (v : Matrix (Fin q) (Fin 1) 𝕜)
    (σ : 𝕜) (hu : uᴴ * u = 1) (hv : vᴴ * v = 1) (h1 : C * v = σ • u) (h2 : uᴴ * C = σ • vᴴ) :
    (1 - u * uᴴ) * C * (1 - v * vᴴ) = C - σ • (u * vᴴ) :=
  XP.Scale.mca_residual C u v σ hu hv h1 h2

/-- **correlation_genuine**: a correlation computed with ONE normalisation convention is bounded by one … -/
theorem correlation_genuine (x y : Fin n → 𝕜) :
    ‖∑ t, star (x t) * y t‖ ≤ Real.sqrt (∑ t, ‖x t‖ ^ 2) * Real.sqrt (∑ t, ‖y t‖ ^ 2) :=
  XP.Corr.correlation_genuine x y

/-- … and the self-correlation is exactly one -/
theorem self_correlation_one (x : Fin n → 𝕜) (hx : 0 < ∑ t, ‖x t‖ ^ 2) :
    (∑ t, star (x t) * x t) / ((Real.sqrt (∑ t, ‖x t‖ ^ 2) * Real.sqrt (∑ t, ‖x t‖ ^ 2) : ℝ) : 𝕜) = 1 :=
  XP.Corr.self_correlation_one x hx

/-- source obligations: covariance and standard deviation of the correlation accessors use the SAME (n−1) convention -/
theorem src_consistent_normalisation (nn : ℝ) :
    Gen.crossCovDenominator nn = nn - 1 ∧ Gen.correlationStdDdof = 1 := by
  constructor
  · simp [Gen.crossCovDenominator]
  · decide

/-- **scores_cross_cov_diag on the executable model** (`XM.cpccaFit`, the definition the driver runs next to `CPCCA._fit_algorithm`):
with any SVD of the model's own cross-covariance `XM.crossCov X Y` (normaliser generated from the source) and any sign choice,
the cross-covariance of the two score sets is `diag σ` restricted to the kept modes -/
theorem model_scores_cross_cov_diag {n p q r k : ℕ} (hk : k ≤ r) (X : XM.Mat n p 𝕜) (Y : XM.Mat n q 𝕜) (Q1 : XM.Mat p r 𝕜)
    (s : Fin r → ℝ) (Q2 : XM.Mat q r 𝕜) (sgn : Fin k → ℝ) (hsgn : ∀ j, sgn j * sgn j = 1)
    (h : XP.SVD.IsSVD (XM.crossCov (ρ := ℝ) X Y).toMatrix Q1.toMatrix s Q2.toMatrix) :
    ((Gen.crossCovDenominator (n : ℝ) : ℝ) : 𝕜)⁻¹ •
        (((XM.cpccaFit hk X Y Q1 s Q2 sgn).scores1.toMatrix)ᴴ * (XM.cpccaFit hk X Y Q1 s Q2 sgn).scores2.toMatrix)
      = XP.EofM.rdiag (fun j => s (Fin.castLE hk j)) := by
  have hlead := XP.CpccaM.leading_block h (Fin.castLE hk) (Fin.castLE_injective hk)
  rw [XP.CpccaM.crossCov_toMatrix] at hlead
  rw [XP.CpccaM.scores1_toMatrix, XP.CpccaM.scores2_toMatrix, ← XP.EofM.rdiag_sgn_conj sgn (fun j => s (Fin.castLE hk j)) hsgn,
    ← hlead]
  simp only [conjTranspose_mul, XP.EofM.rdiag_conjTranspose, Matrix.mul_assoc, Matrix.mul_smul, Matrix.smul_mul]

/-- the model's cross-covariance is `XᴴY / (n − 1)` -/
theorem model_cross_cov {n p q : ℕ} (X : XM.Mat n p 𝕜) (Y : XM.Mat n q 𝕜) :
    (XM.crossCov (ρ := ℝ) X Y).toMatrix = (((n : ℝ) - 1 : ℝ) : 𝕜)⁻¹ • ((X.toMatrix)ᴴ * Y.toMatrix) := by
  rw [XP.CpccaM.crossCov_toMatrix, (src_consistent_normalisation _).1]

/-- source obligation (Hilbert variants): the analytic signal handed to the cross-covariance is centred — the mean of the imaginary
part is removed per feature, for every padding mode, after the padding has been cut away — so "covariance" of the scores is a
genuine covariance -/
theorem src_hilbert_fields_centred :
    Gen.hilbertRecentreMeanArgs = "axis=0" ∧ Gen.hilbertRecentreAfterCutUnconditional = true := ⟨rfl, rfl⟩

/-- source obligation (homogeneous / heterogeneous patterns): the Pearson kernel divides by the ddof-0 deviations and averages over
`n` — the one combination (besides ddof 1 with `n − 1`) for which a self-correlation is exactly one -/
theorem src_pearson_consistent (nn : ℝ) : Gen.pearsonStdDdof = 0 ∧ Gen.pearsonDenominator nn = nn := ⟨rfl, rfl⟩

/-- with deviations `σ² = (Σ|x|²)/n` the self-correlation `(Σ|x|²/σ²)/n` is one -/
theorem pearson_self_one (ss nn : ℝ) (hn : nn ≠ 0) (hs : ss ≠ 0) : (ss / (ss / nn)) / Gen.pearsonDenominator nn = 1 := by
  simp only [Gen.pearsonDenominator]
  field_simp

/-- source obligation: the stages of a cross-set fit run in the order preprocess → PCA → (Hilbert) augmentation → whitening →
decomposition, so the whitening is fitted on the very (analytic) signal whose cross-covariance is decomposed -/
theorem src_fit_stage_order :
    Gen.crossFitStages = ["preprocess", "check-samples", "pca", "augment", "whiten", "algorithm"] := rfl

end C09
