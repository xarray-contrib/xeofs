import XeofsProofs.Bridge
import XeofsProofs.Lemmas.Whiten
import XeofsProofs.Lemmas.PsdSVD
import XeofsProofs.Lemmas.Small
import XeofsProofs.Props.C01
import XeofsProofs.Lemmas.WhitenModel
/-!
# C16 — fractional whitening and PCA reduction are exact, invertible changes of basis

`C = XᴴX/n` is Hermitian positive semi-definite; any SVD `C = U diag(s) Vᴴ` with positive singular values has `U = V`
(`svd_of_psd`), which is why `_fractional_matrix_power` may build `T = V diag(s^p) Vᴴ` from `V` alone. The exponent
`p = Gen.whitenerPower α` is regenerated from the source.
-/
open Matrix XP.Whiten
open scoped ComplexOrder
namespace C16

variable {𝕜 : Type} [RCLike 𝕜] {n p k : ℕ}

/-- the generated exponent is `(α − 1)/2` -/
theorem whitener_power (α : ℝ) : Gen.whitenerPower α = (α - 1) / 2 := by
  simp [Gen.whitenerPower]

/-- **svd_of_psd** -/
theorem svd_of_psd {C U V : Matrix (Fin p) (Fin p) 𝕜} {s : Fin p → ℝ}
    (hC : C.PosSemidef) (hU : Uᴴ * U = 1) (hV : Vᴴ * V = 1) (hs : ∀ i, 0 < s i)
    (h : C = U * diagonal (fun i => (s i : 𝕜)) * Vᴴ) : U = V :=
  XP.Psd.svd_of_psd hC hU hV hs h

/-- **T_hermitian** (also `Tinv = specPow V s (−q)`) -/
theorem T_hermitian (V : Matrix (Fin p) (Fin p) 𝕜) (s : Fin p → ℝ) (α : ℝ) :
    (specPow V s (Gen.whitenerPower α))ᴴ = specPow V s (Gen.whitenerPower α) :=
  specPow_hermitian V s _

/-- **whitened_cov**: `Tᴴ C T = C^α` — identity for `α = 0`, `C` itself for `α = 1` -/
theorem whitened_cov (V : Matrix (Fin p) (Fin p) 𝕜) (hV : Vᴴ * V = 1) (s : Fin p → ℝ) (hs : ∀ i, 0 < s i) (α : ℝ) :
    (specPow V s (Gen.whitenerPower α))ᴴ * specPow V s 1 * specPow V s (Gen.whitenerPower α) = specPow V s α := by
  rw [whitener_power]; exact XP.Whiten.whitened_cov V hV s hs α

theorem whitened_cov_zero (V : Matrix (Fin p) (Fin p) 𝕜) (hV : Vᴴ * V = 1) (hV' : V * Vᴴ = 1) (s : Fin p → ℝ)
    (hs : ∀ i, 0 < s i) :
    (specPow V s (Gen.whitenerPower 0))ᴴ * specPow V s 1 * specPow V s (Gen.whitenerPower 0) = 1 := by
  rw [whitened_cov V hV s hs 0, specPow_zero V hV' s]

/-- the exponent of `Tinv` written in the source is the opposite of the exponent of `T` -/
theorem whitener_inverse_power (α : ℝ) : Gen.whitenerInversePower α = -(Gen.whitenerPower α) := by
  simp [Gen.whitenerInversePower]

/-- **T_Tinv**: the whitening matrix and the matrix the source computes as `Tinv` are mutually inverse (full rank) -/
theorem T_Tinv (V : Matrix (Fin p) (Fin p) 𝕜) (hV : Vᴴ * V = 1) (hV' : V * Vᴴ = 1) (s : Fin p → ℝ)
    (hs : ∀ i, 0 < s i) (α : ℝ) :
    specPow V s (Gen.whitenerPower α) * specPow V s (Gen.whitenerInversePower α) = 1 := by
  rw [whitener_inverse_power]; exact XP.Whiten.T_Tinv V hV hV' s hs _

/-- **unwhiten_rank_deficient**: with a rank-deficient covariance (collinear features) the fractional power keeps the
directions `m` above the cut-off; `T` and `Tinv` are then NOT inverse to each other, yet un-whitening still restores the
data, because the dropped directions (`s i = 0`) carry no data -/
theorem unwhiten_rank_deficient (X : Matrix (Fin n) (Fin p) 𝕜) (V : Matrix (Fin p) (Fin p) 𝕜) (hV : Vᴴ * V = 1)
    (hV' : V * Vᴴ = 1) (s : Fin p → ℝ) (c : ℝ) (m : Fin p → Bool) (hs : ∀ i, m i = true → 0 < s i)
    (hm : ∀ i, m i = false → s i = 0) (hC : Xᴴ * X = V * diagonal (fun i => ((c * s i : ℝ) : 𝕜)) * Vᴴ) (α : ℝ) :
    X * specPowM V s m (Gen.whitenerPower α) * specPowM V s m (Gen.whitenerInversePower α) = X := by
  rw [whitener_inverse_power, Matrix.mul_assoc, T_Tinv_projector V hV s m hs,
    retained_fixes V hV' m X (dropped_directions_carry_no_data X V hV s c m hm hC)]

/-- with every direction retained the masked power is the plain one -/
theorem specPowM_full (V : Matrix (Fin p) (Fin p) 𝕜) (s : Fin p → ℝ) (q : ℝ) :
    specPowM V s (fun _ => true) q = specPow V s q := XP.Whiten.specPowM_all V s q

/-- **unwhiten**: `X T Tinv = X` -/
theorem unwhiten (X : Matrix (Fin n) (Fin p) 𝕜) (T Tinv : Matrix (Fin p) (Fin p) 𝕜) (h : T * Tinv = 1) :
    X * T * Tinv = X := by rw [Matrix.mul_assoc, h, Matrix.mul_one]

/-- **components_there_and_back**: patterns mapped into (`Tᴴ P`) and out of (`Tinvᴴ ·`) the whitened space come back -/
theorem components_there_and_back (T Tinv : Matrix (Fin p) (Fin p) 𝕜) (P : Matrix (Fin p) (Fin k) 𝕜) (hT : T * Tinv = 1) :
    Tinvᴴ * (Tᴴ * P) = P :=
  XP.Small.components_there_and_back T Tinv P hT

/-- the PCA analogue inside the retained subspace: `V (Vᴴ (V Q)) = V Q` -/
theorem pca_components_there_and_back (V : Matrix (Fin p) (Fin k) 𝕜) (hV : Vᴴ * V = 1) (Q : Matrix (Fin k) (Fin n) 𝕜) :
    V * (Vᴴ * (V * Q)) = V * Q := by
  rw [← Matrix.mul_assoc Vᴴ, hV, Matrix.one_mul]

/-- source obligations: relative cut-off; pattern maps use the conjugate transpose; the data map uses `Tinv` itself -/
theorem src_whitener_maps :
    Gen.fracPowerCutoffIsRelative = true ∧ Gen.whitenerTransformComponentsUsesConjTranspose = true ∧
    Gen.whitenerInverseTransformComponentsUsesConjTranspose = true ∧ Gen.whitenerInverseDataUsesTinv = true :=
  ⟨rfl, rfl, rfl, rfl⟩

/-- the covariance that is whitened is normalised with the number of samples -/
theorem src_cov_denominator (nn : ℝ) : Gen.whitenerCovDenominator nn = nn := rfl

/-! ### the same statements on the executable model (`XM.whitenFit`, `XM.pcaTransform`, … — run by the driver next to the real
`Whitener` / `PCA` objects) -/

/-- **un-whitening restores the data** for every centred matrix, including a rank-deficient covariance -/
theorem model_unwhiten {n p : ℕ} (X : XM.Mat n p 𝕜) (V : XM.Mat p p 𝕜) (hV : (V.toMatrix)ᴴ * V.toMatrix = 1)
    (hV' : V.toMatrix * (V.toMatrix)ᴴ = 1) (s : Fin p → ℝ) (c : ℝ) (keep : Fin p → Bool) (hs : ∀ i, keep i = true → 0 < s i)
    (hm : ∀ i, keep i = false → s i = 0)
    (hC : (X.toMatrix)ᴴ * X.toMatrix = V.toMatrix * diagonal (fun i => ((c * s i : ℝ) : 𝕜)) * (V.toMatrix)ᴴ) (alpha : ℝ) :
    (XM.whitenInverseData (XM.whitenFit V s keep alpha) (XM.whitenTransform (XM.whitenFit V s keep alpha) X)).toMatrix = X.toMatrix := by
  simp only [XM.whitenInverseData, XM.whitenTransform, XM.whitenFit, toMatrix_mul, XP.WhitenM.fracPower_toMatrix]
  exact unwhiten_rank_deficient X.toMatrix V.toMatrix hV hV' s c keep hs hm hC alpha

theorem model_T_Tinv {p : ℕ} (V : XM.Mat p p 𝕜) (hV : (V.toMatrix)ᴴ * V.toMatrix = 1) (hV' : V.toMatrix * (V.toMatrix)ᴴ = 1)
    (s : Fin p → ℝ) (hs : ∀ i, 0 < s i) (alpha : ℝ) :
    (XM.whitenFit V s (fun _ => true) alpha).T.toMatrix * (XM.whitenFit V s (fun _ => true) alpha).Tinv.toMatrix = 1 := by
  simp only [XM.whitenFit, XP.WhitenM.fracPower_toMatrix, specPowM_all]
  exact T_Tinv V.toMatrix hV hV' s hs alpha

theorem model_whitened_cov {p : ℕ} (V : XM.Mat p p 𝕜) (hV : (V.toMatrix)ᴴ * V.toMatrix = 1) (s : Fin p → ℝ) (hs : ∀ i, 0 < s i)
    (alpha : ℝ) :
    ((XM.whitenFit V s (fun _ => true) alpha).T.toMatrix)ᴴ * specPow V.toMatrix s 1 * (XM.whitenFit V s (fun _ => true) alpha).T.toMatrix
      = specPow V.toMatrix s alpha := by
  simp only [XM.whitenFit, XP.WhitenM.fracPower_toMatrix, specPowM_all]
  exact whitened_cov V.toMatrix hV s hs alpha

theorem model_components_there_and_back {p k : ℕ} (V : XM.Mat p p 𝕜) (hV : (V.toMatrix)ᴴ * V.toMatrix = 1)
    (hV' : V.toMatrix * (V.toMatrix)ᴴ = 1) (s : Fin p → ℝ) (hs : ∀ i, 0 < s i) (alpha : ℝ) (P : XM.Mat p k 𝕜) :
    (XM.whitenInverseComps (XM.whitenFit V s (fun _ => true) alpha)
        (XM.whitenTransformComps (XM.whitenFit V s (fun _ => true) alpha) P)).toMatrix = P.toMatrix := by
  simp only [XM.whitenInverseComps, XM.whitenTransformComps, toMatrix_mul, toMatrix_conjT]
  exact components_there_and_back _ _ _ (model_T_Tinv V hV hV' s hs alpha)

theorem model_pca_there_and_back {p k r : ℕ} (V : XM.Mat p k 𝕜) (hV : (V.toMatrix)ᴴ * V.toMatrix = 1) (Q : XM.Mat k r 𝕜) :
    (XM.pcaTransformComps V (XM.pcaInverseComps V Q)).toMatrix = Q.toMatrix := by
  simp only [XM.pcaTransformComps, XM.pcaInverseComps, toMatrix_mul, toMatrix_conjT]
  rw [← Matrix.mul_assoc, hV, Matrix.one_mul]

theorem model_pca_transform_inverse {p k m : ℕ} (V : XM.Mat p k 𝕜) (hV : (V.toMatrix)ᴴ * V.toMatrix = 1) (Z : XM.Mat m k 𝕜) :
    (XM.pcaTransform V (XM.pcaInverseData V Z)).toMatrix = Z.toMatrix := by
  simp only [XM.pcaTransform, XM.pcaInverseData, toMatrix_mul, toMatrix_conjT]
  rw [Matrix.mul_assoc, hV, Matrix.mul_one]

end C16
