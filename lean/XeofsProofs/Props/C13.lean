import XeofsModel.Codec2
import XeofsModel.Generated.Facts
/-!
# C13 — a model survives serialisation unchanged (attribute codec and tree bookkeeping)

PARTIAL: the file back-ends (zarr / netCDF engines) are not installed; the property names the in-memory codecs, which is
what is modelled. The value-level equality of rebuilt models is established by the correspondence runs.
-/
namespace C13
open Codec2

/-- **nc_codec_never_raises**: decoding never raises, for ANY attribute value and ANY behaviour of `literal_eval` -/
theorem nc_codec_never_raises (litEval : String → Except PyErr Attr) (a : Attr) :
    ∃ v, desanitize litEval a = .ok v := by
  have hk : Gen.desanitizeKeepsNonLiterals = true := rfl
  cases a with
  | str s =>
    have : ∃ b, Gen.shouldDesanitizeStr s = some b := by
      unfold Gen.shouldDesanitizeStr; split <;> simp
    obtain ⟨b, hb⟩ := this
    cases b with
    | false => exact ⟨.str s, by simp [desanitize, shouldDesanitize, hb]⟩
    | true =>
      cases h : litEval s with
      | ok v => exact ⟨v, by simp [desanitize, shouldDesanitize, hb, h]⟩
      | error e => exact ⟨.str s, by simp [desanitize, shouldDesanitize, hb, h, hk]⟩
  | bool b => exact ⟨_, rfl⟩
  | none => exact ⟨_, rfl⟩
  | int i => exact ⟨_, rfl⟩
  | float f => exact ⟨_, rfl⟩
  | list l => exact ⟨_, rfl⟩
  | dict d => exact ⟨_, rfl⟩

/-- **nc_codec_roundtrip_nonstring**: dict / list / bool / None are stringified and come back equal, GIVEN the oracle
specification of `str` / `literal_eval` on that value (re-checked by the harness) and that Python prints it in a form
the look-alike predicate selects -/
theorem nc_codec_roundtrip_sanitized (pyStr : Attr → String) (litEval : String → Except PyErr Attr) (a : Attr)
    (hs : isSanitized a = true) (hsel : Gen.shouldDesanitizeStr (pyStr a) = some true)
    (hspec : litEval (pyStr a) = .ok a) :
    desanitize litEval (sanitize pyStr a) = .ok a := by
  simp [sanitize, hs, desanitize, shouldDesanitize, hsel, hspec]

/-- numbers are not touched by either direction -/
theorem nc_codec_roundtrip_number (pyStr litEval) (i : Int) (f : Nat) :
    desanitize litEval (sanitize pyStr (.int i)) = .ok (.int i) ∧
    desanitize litEval (sanitize pyStr (.float f)) = .ok (.float f) := by
  have h1 : isSanitized (.int i) = false := by simp only [isSanitized, Attr.typeName]; decide
  have h2 : isSanitized (.float f) = false := by simp only [isSanitized, Attr.typeName]; decide
  simp [sanitize, h1, h2, desanitize, shouldDesanitize]

/-- **nc_codec_roundtrip_string_partial**: every string the look-alike predicate does not select survives unchanged, and so
does every selected string that is not a Python literal.
The FULL statement `∀ s, desanitize (sanitize (.str s)) = .ok (.str s)` is false in the current tree for strings that ARE
Python literals ('True', 'None', '[1]' — known finding KF-C13-1): see the witness below. -/
theorem nc_codec_roundtrip_string_partial (pyStr : Attr → String) (litEval : String → Except PyErr Attr) (s : String)
    (h : Gen.shouldDesanitizeStr s = some false ∨ (∃ e, litEval s = .error e)) :
    desanitize litEval (sanitize pyStr (.str s)) = .ok (.str s) := by
  have hns : isSanitized (.str s) = false := by simp only [isSanitized, Attr.typeName]; decide
  have hk : Gen.desanitizeKeepsNonLiterals = true := rfl
  rcases h with h | ⟨e, he⟩
  · simp [sanitize, hns, desanitize, shouldDesanitize, h]
  · simp only [sanitize, hns, Bool.false_eq_true, if_false, desanitize, shouldDesanitize]
    have : ∃ b, Gen.shouldDesanitizeStr s = some b := by
      unfold Gen.shouldDesanitizeStr; split <;> simp
    obtain ⟨b, hb⟩ := this
    cases b <;> simp [hb, he, hk]

/-- witness for the known finding: the STRING "True" is selected, so with Python's `literal_eval` it comes back as a bool -/
example : desanitize (fun s => if s == "True" then .ok (.bool true) else .error .ValueError) (sanitize (fun _ => "") (.str "True"))
    = .ok (.bool true) := by rfl

/-- the empty string and bracketed non-literals are kept (they raised before the repairs) -/
example : desanitize (fun _ => .error .ValueError) (.str "") = .ok (.str "") := by rfl
example : desanitize (fun _ => .error .ValueError) (.str "[m/s]") = .ok (.str "[m/s]") := by rfl

/-- source obligations: encoder and decoder walk the SAME attribute holders (node attrs and the attrs of ALL variables,
coordinates included); the stringified types are dict, list, bool, None; list transformers are rebuilt in the order they
were serialised (insertion order, keyed by their position) -/
theorem src_codec_symmetric : Gen.sanitizeLoops = Gen.desanitizeLoops ∧ Gen.sanitizeLoops.contains "node.variables" = true :=
  ⟨rfl, rfl⟩

theorem src_sanitized_types : Gen.sanitizedTypes = ["dict", "list", "bool", "type(None)"] := rfl

theorem src_list_transformers_rebuilt_in_fit_order :
    Gen.preprocessorDeserializeLoops = ["zip(names, transformers)", "dt[name].transformers.values()"] ∧
    Gen.preprocessorSerializeKeys = ["dt_transformer.transformers[str(i)]"] := ⟨rfl, rfl⟩

/-- serialising never renames an array of the caller in place -/
theorem src_serialize_pure : Gen.serializeRenamesInPlace = false := rfl

/-- source obligation: a string that is no Python literal is kept whichever way `literal_eval` rejects it — malformed node
(`ValueError`) or not an expression at all (`SyntaxError`, e.g. `[m s-1]`) -/
theorem src_non_literals_kept :
    Gen.desanitizeKeepsNonLiterals = true ∧ Gen.literalEvalCaught.contains "ValueError" = true ∧
    Gen.literalEvalCaught.contains "SyntaxError" = true := ⟨rfl, rfl, rfl⟩

end C13
