import XeofsModel.Frame
import XeofsModel.Sanitize
import XeofsModel.Generated.Facts
import XeofsProofs.Lemmas.Mask
/-!
# C06 — fully missing features/samples are ignored exactly; isolated NaNs are refused
-/
namespace C06
open S

/-- **rectangular_mask**: the Sanitizer's count test (every sample has no valid cell, or as many as there are valid
features) holds iff the validity mask is a product `rowValid ⊗ colValid` — i.e. iff there is NO isolated NaN -/
theorem rectangular_mask {n m : ℕ} (mask : Fin n → Fin m → Bool) :
    XP.Mask.noIsolated mask ↔ ∀ i j, mask i j = (XP.Mask.rowValid mask i && XP.Mask.colValid mask j) :=
  XP.Mask.rectangular_mask mask

/-- **transform_mask_mismatch_refused** -/
theorem transform_mask_mismatch_refused (fitValid newValid : List Bool) (perSample : List Nat) (h : newValid ≠ fitValid) :
    sanitizerAccepts fitValid newValid perSample = false := by
  rw [sanitizerAccepts, beq_false_of_ne h, Bool.false_and]

/-- **isolated_nan_refused**: one sample with some, but not all, valid features present is enough -/
theorem isolated_nan_refused (fitValid newValid : List Bool) (perSample : List Nat) (c : Nat) (hc : c ∈ perSample)
    (h0 : c ≠ 0) (h1 : c ≠ (newValid.filter id).length) : sanitizerAccepts fitValid newValid perSample = false := by
  simp only [sanitizerAccepts, Bool.and_eq_false_iff]
  right
  rw [List.all_eq_false]
  exact ⟨c, hc, by simp [h0, h1]⟩

/-- a "staggered" mask — every sample misses the same NUMBER of cells, at different places — is refused as well: the
count is compared with the number of valid FEATURES, not with the other samples -/
example : sanitizerAccepts [true, true, true] [true, true, true] [2, 2, 2] = false := by decide
example : sanitizerAccepts [true, false, true] [true, false, true] [2, 0, 2] = true := by decide

/-- **nan_exactly_at_deleted**: after dropping the invalid samples/features and re-inserting, the fill value appears at
every label that was dropped … -/
theorem nan_at_deleted {α} (F : Frame α) (okS okF : Key → Bool) (d : α) (s f : Key)
    (h : okS s = false ∨ okF f = false) :
    readBack (F.sanitize okS okF).rows (F.sanitize okS okF).cols (F.sanitize okS okF).toMat d s f = d :=
  S.reinsertion_dropped F okS okF d s f h

/-- … and the original value at every label that was kept (**no_value_from_nan**: a kept cell is read from its own cell) -/
theorem value_at_kept {α} (F : Frame α) (okS okF : Key → Bool) (d : α) (s f : Key)
    (hs : s ∈ F.rows) (hf : f ∈ F.cols) (hos : okS s = true) (hof : okF f = true) :
    readBack (F.sanitize okS okF).rows (F.sanitize okS okF).cols (F.sanitize okS okF).toMat d s f = F.val s f :=
  S.roundtrip (F.sanitize okS okF) d s f (List.mem_filter.mpr ⟨hs, hos⟩) (List.mem_filter.mpr ⟨hf, hof⟩)

/-- **fit_masked_eq_fit_deleted**: the matrix handed to the decomposition after sanitising IS the matrix of the data with
those samples/features deleted beforehand — identical input, hence identical model -/
theorem fit_masked_eq_fit_deleted {α} (F : Frame α) (okS okF : Key → Bool) :
    (F.sanitize okS okF).toMat = ({ rows := F.rows.filter okS, cols := F.cols.filter okF, val := F.val } : Frame α).toMat := rfl

/-- source obligations: the isolated-NaN test counts against the number of valid FEATURES, masks are compared with the
fitted mask, and the joint compute() assigns every result back to the name it was computed from -/
theorem src_sanitizer :
    Gen.sanitizerIsolatedTestCountsAgainstValidFeatures = true ∧ Gen.sanitizerComparesMaskWithFit = true ∧
    Gen.sanitizerComputeAssignsInOrder = true := ⟨rfl, rfl, rfl⟩

/-- source obligation (cross-set models): fields whose entirely missing samples sit at different positions are refused whenever
the retained-sample masks differ anywhere — not merely when their counts differ -/
theorem src_dropped_samples_compared_by_position :
    Gen.crossDroppedSamplesCondition = ["kept[0].shape == kept[1].shape and (kept[0] != kept[1]).any()"] := rfl

end C06
