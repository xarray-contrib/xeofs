import XeofsModel.Mat
import XeofsModel.Eof
import Mathlib.LinearAlgebra.Matrix.ConjTranspose
import Mathlib.Algebra.BigOperators.Fin
import Mathlib.Algebra.BigOperators.Field
import Mathlib.Analysis.RCLike.Basic
import Mathlib.Analysis.SpecialFunctions.Log.Basic
import Mathlib.Analysis.SpecialFunctions.Sqrt
import Mathlib.Analysis.SpecialFunctions.Pow.Real
/-! Bridge between the executable, Mathlib-free model (`XM.Mat`, classes `Num`, `XM.Entry`) and Mathlib:
the proofs instantiate the SAME polymorphic definitions the driver runs on `Float` at `ρ = ℝ`, `α = 𝕜`. -/
open XM Matrix

noncomputable instance : Num ℝ where
  ofNat := fun n => (n : ℝ)
  sqrt := Real.sqrt
  log := Real.log
  abs := fun x => |x|
  pow := fun x y => x ^ y
  exp := Real.exp

variable {𝕜 : Type} [RCLike 𝕜]
noncomputable instance : XM.Entry ℝ 𝕜 :=
  { conj := star, ofReal := fun x => (x : 𝕜), divReal := fun x r => x / (r : 𝕜), normSq := fun x => RCLike.normSq x,
    re := fun x => RCLike.re x, im := fun x => RCLike.im x, ofParts := fun a b => (a : 𝕜) + (b : 𝕜) * RCLike.I }

@[simp] theorem Num.exp_real (x : ℝ) : (Num.exp x : ℝ) = Real.exp x := rfl
@[simp] theorem Num.pow_real (x y : ℝ) : (Num.pow x y : ℝ) = x ^ y := rfl
@[simp] theorem Num.sqrt_real (x : ℝ) : (Num.sqrt x : ℝ) = Real.sqrt x := rfl
@[simp] theorem Num.log_real (x : ℝ) : (Num.log x : ℝ) = Real.log x := rfl
@[simp] theorem Num.ofNat_real (n : ℕ) : (Num.ofNat n : ℝ) = (n : ℝ) := rfl
@[simp] theorem Entry.ofReal_eq (x : ℝ) : (Entry.ofReal x : 𝕜) = (x : 𝕜) := rfl
@[simp] theorem Entry.divReal_eq (x : 𝕜) (r : ℝ) : (Entry.divReal x r : 𝕜) = x / (r : 𝕜) := rfl
@[simp] theorem Entry.normSq_eq (x : 𝕜) : (Entry.normSq x : ℝ) = RCLike.normSq x := rfl
@[simp] theorem Entry.re_eq (x : 𝕜) : (Entry.re x : ℝ) = RCLike.re x := rfl
@[simp] theorem Entry.im_eq (x : 𝕜) : (Entry.im x : ℝ) = RCLike.im x := rfl
@[simp] theorem Entry.ofParts_eq (a b : ℝ) : (Entry.ofParts a b : 𝕜) = (a : 𝕜) + (b : 𝕜) * RCLike.I := rfl
theorem re_ofParts (a b : ℝ) : RCLike.re (Entry.ofParts a b : 𝕜) = a := by
  simp [Entry.ofParts_eq, map_add, RCLike.mul_re]
theorem im_ofParts (a b : ℝ) : RCLike.im (Entry.ofParts a b : 𝕜) = b * RCLike.im (RCLike.I : 𝕜) := by
  simp [Entry.ofParts_eq, map_add, RCLike.mul_im]
@[simp] theorem Conj.conj_eq (x : 𝕜) : (Conj.conj x : 𝕜) = star x := rfl
/-- the model writes `Zero.zero` where it cannot write `0` (no `OfNat` on its entry class) -/
@[simp] theorem Zero.zero_eq {α} [Zero α] : (Zero.zero : α) = 0 := rfl

def XM.Mat.toMatrix {α} {n m} (A : Mat n m α) : Matrix (Fin n) (Fin m) α := fun i j => A.get i j

@[simp] theorem toMatrix_apply {α} {n m} (A : Mat n m α) (i : Fin n) (j : Fin m) : A.toMatrix i j = A.get i j := rfl

@[simp] theorem toMatrix_ofFn {α} {n m} (f : Fin n → Fin m → α) : (Mat.ofFn f).toMatrix = Matrix.of f := by
  ext i j; simp [Mat.toMatrix]

theorem XM.Mat.ext_get {α} {n m} {A B : Mat n m α} (h : ∀ i j, A.get i j = B.get i j) : A = B := by
  rcases A with ⟨a⟩; rcases B with ⟨b⟩
  congr 1
  ext i hi j hj
  exact h ⟨i, hi⟩ ⟨j, hj⟩

theorem sumFin_eq {α} [AddCommMonoid α] (n : Nat) (f : Fin n → α) : Mat.sumFin n f = ∑ i, f i := by
  unfold Mat.sumFin
  induction n with
  | zero => simp [Fin.foldl_zero]
  | succ n ih => rw [Fin.foldl_succ_last, Fin.sum_univ_castSucc, ih]

/-- the sums of squares in the model start from `Num.ofNat 0` instead of `0` -/
theorem foldl_add_eq_sum (n : Nat) (f : Fin n → ℝ) : Fin.foldl n (fun acc i => acc + f i) (Num.ofNat 0 : ℝ) = ∑ i, f i := by
  rw [Num.ofNat_real, Nat.cast_zero]; exact sumFin_eq n f

@[simp] theorem toMatrix_mul {α} [NonAssocSemiring α] {n k m} (A : Mat n k α) (B : Mat k m α) :
    (Mat.mul A B).toMatrix = A.toMatrix * B.toMatrix := by
  ext i j
  rw [toMatrix_apply, Mat.mul, Mat.get_ofFn, sumFin_eq, Matrix.mul_apply]
  rfl

@[simp] theorem toMatrix_conjT {n m} (A : Mat n m 𝕜) : (Mat.conjT A).toMatrix = (A.toMatrix)ᴴ := by
  ext i j; simp [Mat.toMatrix, Mat.conjT, conjTranspose_apply]

@[simp] theorem toMatrix_scaleCols {n m} (A : Mat n m 𝕜) (s : Fin m → 𝕜) :
    (Mat.scaleCols A s).toMatrix = A.toMatrix * diagonal s := by
  ext i j; simp [Mat.toMatrix, Mat.scaleCols, Matrix.mul_diagonal]

@[simp] theorem toMatrix_divCols {n m} (A : Mat n m 𝕜) (d : Fin m → ℝ) :
    (Mat.divCols A d).toMatrix = A.toMatrix * diagonal (fun j => ((d j : 𝕜))⁻¹) := by
  ext i j; simp [Mat.toMatrix, Mat.divCols, Matrix.mul_diagonal, div_eq_mul_inv]

/-- an array over a real scalar (`C / (n - 1)`) -/
theorem toMatrix_ofFn_divReal {n m} (M : Mat n m 𝕜) (d : ℝ) :
    (Mat.ofFn fun i j => Entry.divReal (M.get i j) d).toMatrix = ((d : ℝ) : 𝕜)⁻¹ • M.toMatrix := by
  ext i j; simp [div_eq_inv_mul]

@[simp] theorem toMatrix_sub {n m} (A B : Mat n m 𝕜) : (Mat.sub A B).toMatrix = A.toMatrix - B.toMatrix := by
  ext i j; simp [Mat.toMatrix, Mat.sub]

@[simp] theorem toMatrix_add {n m} (A B : Mat n m 𝕜) : (Mat.add A B).toMatrix = A.toMatrix + B.toMatrix := by
  ext i j; simp [Mat.toMatrix, Mat.add]

@[simp] theorem toMatrix_firstCols {α} {n m} (A : Mat n m α) (k : Nat) (h : k ≤ m) :
    (Mat.firstCols A k h).toMatrix = A.toMatrix.submatrix id (Fin.castLE h) := by
  ext i j; simp [Mat.toMatrix, Mat.firstCols, Fin.castLE]
