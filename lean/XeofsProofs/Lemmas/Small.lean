import Mathlib.LinearAlgebra.Matrix.ConjTranspose
import Mathlib.LinearAlgebra.Matrix.Trace
import Mathlib.Analysis.RCLike.Basic
import XeofsProofs.Lemmas.Columns

namespace XP.Small
open Matrix Finset

variable {𝕜 : Type*} [RCLike 𝕜] {n p q k r : ℕ}

/-- C01 `ratio_eq`: total variance (= trace of the Gram matrix, A.20) is the sum of ALL eigenvalues, so the
explained-variance ratios are `λ_i / Σ_j λ_j` -/
theorem trace_eq_sum_diag (V : Matrix (Fin p) (Fin p) 𝕜) (d : Fin p → ℝ) (hV : Vᴴ * V = 1) :
    RCLike.re (trace (V * diagonal (fun i => (d i : 𝕜)) * Vᴴ)) = ∑ i, d i := by
  rw [trace_mul_cycle, hV, Matrix.one_mul, trace_diagonal, map_sum]
  exact sum_congr rfl fun i _ => RCLike.ofReal_re (d i)

/-- C03 `cpcca_full_reconstruction`: PCA (all modes), whitening and the CPCCA projection are undone in reverse order -/
theorem cpcca_full_reconstruction (X : Matrix (Fin n) (Fin p) 𝕜) (V : Matrix (Fin p) (Fin r) 𝕜)
    (T Tinv Q : Matrix (Fin r) (Fin r) 𝕜) (hXV : X * V * Vᴴ = X) (hT : T * Tinv = 1) (hQ : Q * Qᴴ = 1) :
    ((X * V * T) * Q) * Qᴴ * Tinv * Vᴴ = X := by
  rw [Matrix.mul_assoc (X * V * T), hQ, Matrix.mul_one, Matrix.mul_assoc (X * V), hT, Matrix.mul_one, hXV]

/-- C16 `components_there_and_back` (the map used by every cross-set `components()` and by the rotators) -/
theorem components_there_and_back (T Tinv : Matrix (Fin r) (Fin r) 𝕜) (P : Matrix (Fin r) (Fin k) 𝕜) (hT : T * Tinv = 1) :
    Tinvᴴ * (Tᴴ * P) = P := by
  rw [← Matrix.mul_assoc, ← conjTranspose_mul, hT, conjTranspose_one, Matrix.one_mul]

/-- C19: series `Z F` filtered with `Fᴴ (c • ZᴴZ) F = 1` are uncorrelated with equal norm; `F` need not be square (fewer patterns than PCs) -/
theorem gram_of_whitening_filter (Z : Matrix (Fin n) (Fin r) 𝕜) (F : Matrix (Fin r) (Fin k) 𝕜) (c : 𝕜)
    (h : Fᴴ * (c • (Zᴴ * Z)) * F = 1) (hc : c ≠ 0) :
    (Z * F)ᴴ * (Z * F) = c⁻¹ • (1 : Matrix (Fin k) (Fin k) 𝕜) := by
  rw [gram_mul, eq_inv_smul_iff₀ hc, ← Matrix.smul_mul, ← Matrix.mul_smul, h]

/-- C20 `sign_aligned`: after multiplying a member mode by `np.sign c`, its correlation with the model's mode is ≥ 0 -/
theorem sign_aligned (c : ℝ) : 0 ≤ (if 0 < c then 1 else if c < 0 then -1 else (0 : ℝ)) * c := by
  split_ifs with h h'
  · rw [one_mul]
    exact h.le
  · rw [neg_one_mul]
    exact (neg_pos.mpr h').le
  · rw [zero_mul]

end XP.Small
