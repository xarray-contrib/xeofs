import Mathlib.Analysis.SpecialFunctions.Pow.Real
import Mathlib.LinearAlgebra.Matrix.ConjTranspose
import Mathlib.LinearAlgebra.Matrix.Hermitian
import Mathlib.Analysis.RCLike.Basic
import XeofsProofs.Lemmas.Columns

namespace XP.SpecPow
open Matrix

variable {𝕜 : Type*} [RCLike 𝕜] {n p q : ℕ}

noncomputable def specPow (V : Matrix (Fin p) (Fin p) 𝕜) (s : Fin p → ℝ) (a : ℝ) : Matrix (Fin p) (Fin p) 𝕜 :=
  V * diagonal (fun i => ((s i ^ a : ℝ) : 𝕜)) * Vᴴ

/-- C09 `sigma_proportional`, key step: rescaling the covariance by `c > 0` (e.g. `N` vs `N-1` normalisation,
`c = (N-1)/N`) rescales its spectral power by the scalar `c ^ a` -/
theorem specPow_scale (V : Matrix (Fin p) (Fin p) 𝕜) (s : Fin p → ℝ) (hs : ∀ i, 0 ≤ s i) (c : ℝ) (hc : 0 ≤ c) (a : ℝ) :
    specPow V (fun i => c * s i) a = ((c ^ a : ℝ) : 𝕜) • specPow V s a := by
  unfold specPow
  simp only [Real.mul_rpow hc (hs _)]
  rw [diagonal_ofReal_mul, Matrix.mul_smul, Matrix.smul_mul]

/-- hence the whitened cross-covariances built with the two normalisations differ by one scalar factor that depends
only on the sample count and the two whitening degrees -/
theorem whitened_cross_cov_scale (Vx : Matrix (Fin p) (Fin p) 𝕜) (Vy : Matrix (Fin q) (Fin q) 𝕜)
    (sx : Fin p → ℝ) (sy : Fin q → ℝ) (hsx : ∀ i, 0 ≤ sx i) (hsy : ∀ i, 0 ≤ sy i)
    (C : Matrix (Fin p) (Fin q) 𝕜) (c : ℝ) (hc : 0 ≤ c) (a b : ℝ) :
    (specPow Vx (fun i => c * sx i) a)ᴴ * C * specPow Vy (fun i => c * sy i) b
      = ((c ^ a * c ^ b : ℝ) : 𝕜) • ((specPow Vx sx a)ᴴ * C * specPow Vy sy b) := by
  rw [specPow_scale Vx sx hsx c hc a, specPow_scale Vy sy hsy c hc b, conjTranspose_smul, RCLike.star_def, RCLike.conj_ofReal]
  simp only [Matrix.smul_mul, Matrix.mul_smul, smul_smul]
  rw [RCLike.ofReal_mul, mul_comm]

/-- C10 `pca_all_modes_is_no_pca`, key step: a unitary change of basis commutes with the spectral power -/
theorem specPow_conj (Q V : Matrix (Fin p) (Fin p) 𝕜) (s : Fin p → ℝ) (a : ℝ) :
    specPow (Qᴴ * V) s a = Qᴴ * specPow V s a * Q := by
  unfold specPow
  simp only [conjTranspose_mul, conjTranspose_conjTranspose, Matrix.mul_assoc]

/-- C10 `mca_self_is_eof`: a diagonalisation of the covariance IS a singular value decomposition of it
(U = V, singular values = eigenvalues = explained variances) -/
theorem mca_self_is_eof (V : Matrix (Fin p) (Fin p) 𝕜) (d : Fin p → ℝ) (C : Matrix (Fin p) (Fin p) 𝕜)
    (hV : Vᴴ * V = 1) (hd : Antitone d) (hd0 : ∀ i, 0 ≤ d i)
    (hC : C = V * diagonal (fun i => (d i : 𝕜)) * Vᴴ) :
    Vᴴ * V = 1 ∧ Vᴴ * V = 1 ∧ C = V * diagonal (fun i => (d i : 𝕜)) * Vᴴ ∧ (∀ i, 0 ≤ d i) ∧ Antitone d :=
  ⟨hV, hV, hC, hd0, hd⟩

end XP.SpecPow
