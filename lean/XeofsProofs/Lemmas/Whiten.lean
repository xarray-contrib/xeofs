import Mathlib.Analysis.SpecialFunctions.Pow.Real
import Mathlib.LinearAlgebra.Matrix.ConjTranspose
import Mathlib.LinearAlgebra.Matrix.Hermitian
import Mathlib.Analysis.RCLike.Basic
import XeofsProofs.Lemmas.Columns
/-! Fractional powers `V diag(s^q) Vᴴ` of a diagonalised covariance (`_fractional_matrix_power`), at full rank and with the
directions below the cut-off dropped. -/
namespace XP.Whiten
open Matrix

variable {𝕜 : Type*} [RCLike 𝕜] {n p : ℕ}

/-- matrices diagonal in the same orthonormal basis multiply entry by entry -/
theorem conj_diagonal_mul (V : Matrix (Fin p) (Fin p) 𝕜) (hV : Vᴴ * V = 1) (d e : Fin p → 𝕜) :
    V * diagonal d * Vᴴ * (V * diagonal e * Vᴴ) = V * diagonal (fun i => d i * e i) * Vᴴ := by
  rw [Matrix.mul_assoc V (diagonal e), Matrix.mul_assoc (V * diagonal d), ← Matrix.mul_assoc Vᴴ, hV, Matrix.one_mul,
    ← Matrix.mul_assoc, Matrix.mul_assoc V, diagonal_mul_diagonal]

noncomputable def specPow (V : Matrix (Fin p) (Fin p) 𝕜) (s : Fin p → ℝ) (q : ℝ) : Matrix (Fin p) (Fin p) 𝕜 :=
  V * diagonal (fun i => ((s i ^ q : ℝ) : 𝕜)) * Vᴴ

/-- `V[:, m] diag(s[m]^q) V[:, m]ᴴ` written with a 0/1 mask: `_fractional_matrix_power` keeps the directions `m i = true`
(singular value above the relative cut-off) and drops the others -/
noncomputable def specPowM (V : Matrix (Fin p) (Fin p) 𝕜) (s : Fin p → ℝ) (m : Fin p → Bool) (q : ℝ) :
    Matrix (Fin p) (Fin p) 𝕜 :=
  V * diagonal (fun i => if m i then ((s i ^ q : ℝ) : 𝕜) else 0) * Vᴴ

theorem specPowM_all (V : Matrix (Fin p) (Fin p) 𝕜) (s : Fin p → ℝ) (q : ℝ) :
    specPowM V s (fun _ => true) q = specPow V s q :=
  rfl

/-- exponents add on the retained directions, where `s` is positive -/
theorem specPowM_mul (V : Matrix (Fin p) (Fin p) 𝕜) (hV : Vᴴ * V = 1) (s : Fin p → ℝ) (m : Fin p → Bool)
    (hs : ∀ i, m i = true → 0 < s i) (a b : ℝ) :
    specPowM V s m a * specPowM V s m b = specPowM V s m (a + b) := by
  unfold specPowM
  rw [conj_diagonal_mul V hV]
  congr 3; funext i
  split_ifs with hm
  · rw [Real.rpow_add (hs i hm), RCLike.ofReal_mul]
  · exact mul_zero 0

theorem specPow_mul (V : Matrix (Fin p) (Fin p) 𝕜) (hV : Vᴴ * V = 1) (s : Fin p → ℝ) (hs : ∀ i, 0 < s i)
    (a b : ℝ) : specPow V s a * specPow V s b = specPow V s (a + b) :=
  specPowM_mul V hV s (fun _ => true) (fun i _ => hs i) a b

theorem specPow_hermitian (V : Matrix (Fin p) (Fin p) 𝕜) (s : Fin p → ℝ) (q : ℝ) :
    (specPow V s q)ᴴ = specPow V s q := by
  rw [specPow, conjTranspose_mul, conjTranspose_mul, conjTranspose_conjTranspose, diagonal_ofReal_conjTranspose,
    Matrix.mul_assoc]

theorem whitened_cov (V : Matrix (Fin p) (Fin p) 𝕜) (hV : Vᴴ * V = 1) (s : Fin p → ℝ) (hs : ∀ i, 0 < s i) (α : ℝ) :
    (specPow V s ((α - 1) / 2))ᴴ * specPow V s 1 * specPow V s ((α - 1) / 2) = specPow V s α := by
  rw [specPow_hermitian, specPow_mul V hV s hs, specPow_mul V hV s hs]
  congr 1; ring

theorem specPow_zero (V : Matrix (Fin p) (Fin p) 𝕜) (hV' : V * Vᴴ = 1) (s : Fin p → ℝ) : specPow V s 0 = 1 := by
  simp only [specPow, Real.rpow_zero, RCLike.ofReal_one, diagonal_one, Matrix.mul_one, hV']

theorem T_Tinv (V : Matrix (Fin p) (Fin p) 𝕜) (hV : Vᴴ * V = 1) (hV' : V * Vᴴ = 1) (s : Fin p → ℝ)
    (hs : ∀ i, 0 < s i) (q : ℝ) : specPow V s q * specPow V s (-q) = 1 := by
  rw [specPow_mul V hV s hs, add_neg_cancel, specPow_zero V hV']

/-! ### Rank-deficient covariance

`T` and `Tinv` (the opposite exponent on the SAME retained directions) multiply to the orthogonal projector onto the retained
directions, and data without component in the dropped directions is restored. -/

/-- projector onto the retained directions -/
noncomputable def retained (V : Matrix (Fin p) (Fin p) 𝕜) (m : Fin p → Bool) : Matrix (Fin p) (Fin p) 𝕜 :=
  V * diagonal (fun i => if m i then (1 : 𝕜) else 0) * Vᴴ

theorem specPowM_zero (V : Matrix (Fin p) (Fin p) 𝕜) (s : Fin p → ℝ) (m : Fin p → Bool) :
    specPowM V s m 0 = retained V m := by
  simp only [specPowM, retained, Real.rpow_zero, RCLike.ofReal_one]

theorem T_Tinv_projector (V : Matrix (Fin p) (Fin p) 𝕜) (hV : Vᴴ * V = 1) (s : Fin p → ℝ) (m : Fin p → Bool)
    (hs : ∀ i, m i = true → 0 < s i) (q : ℝ) :
    specPowM V s m q * specPowM V s m (-q) = retained V m := by
  rw [specPowM_mul V hV s m hs, add_neg_cancel, specPowM_zero]

/-- data with no component along the dropped directions is left unchanged by the projector -/
theorem retained_fixes (V : Matrix (Fin p) (Fin p) 𝕜) (hV' : V * Vᴴ = 1) (m : Fin p → Bool)
    (X : Matrix (Fin n) (Fin p) 𝕜) (hX : ∀ i, m i = false → ∀ k, (X * V) k i = 0) :
    X * retained V m = X := by
  have h : X * V * diagonal (fun i => if m i then (1 : 𝕜) else 0) = X * V := by
    ext k i
    rw [mul_diagonal]
    cases hm : m i
    · rw [if_neg Bool.false_ne_true, mul_zero, hX i hm k]
    · rw [if_pos rfl, mul_one]
  rw [retained, ← Matrix.mul_assoc, ← Matrix.mul_assoc, h, Matrix.mul_assoc, hV', Matrix.mul_one]

/-- **the dropped directions carry no data**: if `XᴴX = V diag(c·s) Vᴴ` (the covariance, up to its normaliser `c`) and the
dropped directions are those with `s i = 0`, the hypothesis of `retained_fixes` holds -/
theorem dropped_directions_carry_no_data (X : Matrix (Fin n) (Fin p) 𝕜) (V : Matrix (Fin p) (Fin p) 𝕜) (hV : Vᴴ * V = 1)
    (s : Fin p → ℝ) (c : ℝ) (m : Fin p → Bool) (hm : ∀ i, m i = false → s i = 0)
    (hC : Xᴴ * X = V * diagonal (fun i => ((c * s i : ℝ) : 𝕜)) * Vᴴ) :
    ∀ i, m i = false → ∀ k, (X * V) k i = 0 := by
  intro i hi
  refine col_zero_of_gram_zero (X * V) i ?_
  -- the Gram matrix of `X V` is `Vᴴ (XᴴX) V = diag(c·s)`
  rw [gram_mul, hC, Matrix.mul_assoc V, ← Matrix.mul_assoc Vᴴ, hV, Matrix.one_mul, Matrix.mul_assoc, hV, Matrix.mul_one,
    diagonal_apply_eq, hm i hi, mul_zero, RCLike.ofReal_zero]

end XP.Whiten
