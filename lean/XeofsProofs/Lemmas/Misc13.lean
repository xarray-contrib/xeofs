import Mathlib.LinearAlgebra.Matrix.NonsingularInverse
import Mathlib.LinearAlgebra.Matrix.ConjTranspose
import Mathlib.Analysis.RCLike.Basic
import Mathlib.Data.Matrix.ColumnRowPartitioned
import Mathlib.Data.Complex.Basic
import Mathlib.Analysis.Complex.Basic
import Mathlib.LinearAlgebra.UnitaryGroup

namespace XP.M13
open Matrix

variable {𝕜 : Type*} [RCLike 𝕜] {n n' p k : ℕ}

/-! ### C05: transform is a per-sample map -/
theorem transform_rows (A : Matrix (Fin n) (Fin p) 𝕜) (B : Matrix (Fin n') (Fin p) 𝕜) (V : Matrix (Fin p) (Fin k) 𝕜) :
    Matrix.fromRows A B * V = Matrix.fromRows (A * V) (B * V) :=
  Matrix.fromRows_mul A B V

/-! ### C11: every Varimax iterate `U * Vᴴ` is unitary -/
/-- abstract Varimax loop: whatever the update computes from the current rotation, as long as each
update returns `U * Vᴴ` of unitary factors, every iterate (and the result after any number of steps) is unitary -/
theorem varimax_iter_unitary (step : Matrix (Fin k) (Fin k) 𝕜 → Matrix (Fin k) (Fin k) 𝕜)
    (hstep : ∀ R, (step R)ᴴ * step R = 1) (m : ℕ) :
    ((step^[m]) (1 : Matrix (Fin k) (Fin k) 𝕜))ᴴ * (step^[m]) 1 = 1 := by
  induction m with
  | zero => simp
  | succ m _ => rw [Function.iterate_succ_apply']; exact hstep _

/-! ### C11: Promax with power 1 is Varimax: the Procrustes regression returns the column scaling itself -/
theorem promax_power_one (X : Matrix (Fin p) (Fin k) 𝕜) (D : Matrix (Fin k) (Fin k) 𝕜)
    (G : Matrix (Fin k) (Fin k) 𝕜) (hG : G * (Xᴴ * X) = 1) :
    G * Xᴴ * (X * D) = D := by
  rw [Matrix.mul_assoc, ← Matrix.mul_assoc Xᴴ, ← Matrix.mul_assoc G, hG, Matrix.one_mul]

/-! ### C18: conjugate pairs and noise-free recovery -/
theorem pop_conjugate_pair (A : Matrix (Fin p) (Fin p) ℂ) (hA : A.map (starRingEnd ℂ) = A)
    (v : Fin p → ℂ) (lam : ℂ) (h : A *ᵥ v = lam • v) :
    A *ᵥ (fun i => starRingEnd ℂ (v i)) = (starRingEnd ℂ lam) • (fun i => starRingEnd ℂ (v i)) := by
  funext i
  -- conjugation commutes with the product of the real matrix `A` and a vector
  have hi := RingHom.map_mulVec (starRingEnd ℂ) A v i
  rw [hA, h, Pi.smul_apply, smul_eq_mul, map_mul] at hi
  exact hi.symm

/-- feedback matrix estimate `X₁ᴴ X₀ (X₀ᴴ X₀)⁻¹` recovers `A` exactly when `X₁ = X₀ Aᴴ` (noise-free) -/
theorem noise_free_recovery (X0 X1 : Matrix (Fin n) (Fin p) 𝕜) (A G : Matrix (Fin p) (Fin p) 𝕜)
    (hG : (X0ᴴ * X0) * G = 1) (hdyn : X1 = X0 * Aᴴ) :
    X1ᴴ * X0 * G = A := by
  rw [hdyn, conjTranspose_mul, conjTranspose_conjTranspose, Matrix.mul_assoc A, Matrix.mul_assoc A, hG, Matrix.mul_one]

end XP.M13
