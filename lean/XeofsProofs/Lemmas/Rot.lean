import XeofsProofs.Lemmas.Columns
import Mathlib.LinearAlgebra.Matrix.NonsingularInverse

namespace XP.Rot
open Matrix XP.EofM

variable {𝕜 : Type*} [RCLike 𝕜] {n p k : ℕ}

/-- The cancellation behind every rotated reconstruction. Scores `S D₁ T D₂ Q` and patterns `C E₁ R E₂ Q` with diagonal scalings,
`T = (R⁻¹)ᴴ`, a unitary `Q` (order and signs), and scalings that match up to one common factor `c` (`√(n−1)` for EOFRotator's
pseudo-norms, `1` for the cross-set rotators) reconstruct what the unrotated, unscaled factors reconstruct. -/
theorem scaled_rot_cancel (S : Matrix (Fin n) (Fin k) 𝕜) (C : Matrix (Fin p) (Fin k) 𝕜) (T R Q : Matrix (Fin k) (Fin k) 𝕜)
    (d₁ d₂ e₁ e₂ : Fin k → 𝕜) (c : 𝕜) (hTR : T * Rᴴ = 1) (hQ : Q * Qᴴ = 1)
    (h₂ : ∀ j, d₂ j * star (e₂ j) = c) (h₁ : ∀ j, d₁ j * c * star (e₁ j) = 1) :
    (S * diagonal d₁ * T * diagonal d₂ * Q) * (C * diagonal e₁ * R * diagonal e₂ * Q)ᴴ = S * Cᴴ := by
  have h2 : diagonal d₂ * (diagonal e₂)ᴴ = c • (1 : Matrix (Fin k) (Fin k) 𝕜) := by
    rw [diagonal_conjTranspose, diagonal_mul_diagonal, ← diagonal_one, ← diagonal_smul]
    exact congrArg diagonal (funext fun j => (h₂ j).trans (mul_one c).symm)
  have h1 : c • (diagonal d₁ * (diagonal e₁)ᴴ) = (1 : Matrix (Fin k) (Fin k) 𝕜) := by
    rw [diagonal_conjTranspose, diagonal_mul_diagonal, ← diagonal_smul, ← diagonal_one]
    exact congrArg diagonal (funext fun j => (mul_left_comm _ _ _).trans ((mul_assoc _ _ _).symm.trans (h₁ j)))
  -- the factors cancel pair by pair from the right: `Q Qᴴ`, then `D₂ E₂ᴴ = c`, then `T Rᴴ`, then `c D₁ E₁ᴴ`
  rw [mul_mul_conjTranspose, hQ, Matrix.mul_one, mul_mul_conjTranspose, h2, Matrix.mul_smul, Matrix.mul_one, Matrix.smul_mul,
    mul_mul_conjTranspose, hTR, Matrix.mul_one, ← Matrix.smul_mul, ← Matrix.mul_smul, mul_mul_conjTranspose, Matrix.smul_mul, h1,
    Matrix.mul_one]

/-- reconstruction from rotated scores/components equals reconstruction from the unrotated ones,
for ANY invertible rotation matrix `R`, any nonzero column scaling `ν` (pseudo-norms), any permutation
matrix / sign matrix `Q` with `Q Qᴴ = 1`. -/
theorem rot_reconstruction (U : Matrix (Fin n) (Fin k) 𝕜) (L : Matrix (Fin p) (Fin k) 𝕜)
    (R Rinv Q : Matrix (Fin k) (Fin k) 𝕜) (ν : Fin k → 𝕜) (hν : ∀ j, ν j ≠ 0)
    (hR : Rinv * R = 1) (hQ : Q * Qᴴ = 1) (hνreal : ∀ j, star (ν j) = ν j) :
    let comps  := L * R * diagonal (fun j => (ν j)⁻¹) * Q       -- normalised rotated loadings, sorted/signed
    let scores := U * Rinvᴴ * diagonal ν * Q                    -- rotated scores, sorted/signed
    scores * compsᴴ = U * Lᴴ := by
  intro comps scores
  have hTR : Rinvᴴ * Rᴴ = 1 := by rw [← conjTranspose_mul, mul_eq_one_comm.mp hR, conjTranspose_one]
  have h := scaled_rot_cancel U L Rinvᴴ R Q (fun _ => 1) ν (fun _ => 1) (fun j => (ν j)⁻¹) 1 hTR hQ
    (fun j => by rw [star_inv₀, hνreal j, mul_inv_cancel₀ (hν j)]) (fun j => by rw [star_one, mul_one, mul_one])
  rwa [diagonal_one, Matrix.mul_one, Matrix.mul_one] at h

section
variable {𝕜 : Type} [RCLike 𝕜]

/-- the same with real scalings, as the executable models have them -/
theorem rdiag_rot_cancel (S : Matrix (Fin n) (Fin k) 𝕜) (C : Matrix (Fin p) (Fin k) 𝕜) (T R Q : Matrix (Fin k) (Fin k) 𝕜)
    (d₁ d₂ e₁ e₂ : Fin k → ℝ) (c : ℝ) (hTR : T * Rᴴ = 1) (hQ : Q * Qᴴ = 1)
    (h₂ : ∀ j, d₂ j * e₂ j = c) (h₁ : ∀ j, d₁ j * c * e₁ j = 1) :
    (S * (rdiag d₁ : Matrix (Fin k) (Fin k) 𝕜) * T * (rdiag d₂ : Matrix (Fin k) (Fin k) 𝕜) * Q)
        * (C * (rdiag e₁ : Matrix (Fin k) (Fin k) 𝕜) * R * (rdiag e₂ : Matrix (Fin k) (Fin k) 𝕜) * Q)ᴴ = S * Cᴴ :=
  scaled_rot_cancel S C T R Q (fun j => (d₁ j : 𝕜)) (fun j => (d₂ j : 𝕜)) (fun j => (e₁ j : 𝕜)) (fun j => (e₂ j : 𝕜)) (c : 𝕜) hTR hQ
    (fun j => by rw [RCLike.star_def, RCLike.conj_ofReal]; exact_mod_cast h₂ j)
    (fun j => by rw [RCLike.star_def, RCLike.conj_ofReal]; exact_mod_cast h₁ j)

end

end XP.Rot
