import XeofsProofs.Bridge
import XeofsModel.Hilbert
/-! Hilbert transform with padding (`XeofsModel/Hilbert.lean`): what the executable definitions compute, in Mathlib's matrix language (no property statements). -/
open XM Matrix

variable {n p : ℕ}

namespace XP.HilbertM

/-- the middle third of the padded series is the input itself (the anomaly put back on the fitted line) -/
theorem padExp_middle (y : Mat n p ℝ) (c0 c1 : Fin p → ℝ) (decay : ℝ) (hn : 0 < n) (t : Fin n) (f : Fin p) :
    (padExp y c0 c1 decay hn).get ⟨n + t.val, by omega⟩ f = y.get t f := by
  have h1 : ¬ (n + t.val < n) := by omega
  have h2 : n + t.val < 2 * n := by omega
  simp only [padExp, Mat.get_ofFn, h1, h2, dif_neg, dif_pos, not_false_eq_true]
  have : (⟨n + t.val - n, by omega⟩ : Fin n) = t := by ext; simp
  rw [this]
  ring

end XP.HilbertM
