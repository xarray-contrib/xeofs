import XeofsProofs.Bridge
import XeofsProofs.Lemmas.Whiten
import XeofsModel.Whiten
/-! Whitener (`XeofsModel/Whiten.lean`): what the executable definitions compute, in Mathlib's matrix language (no property statements). -/
open XM Matrix XP.Whiten

variable {𝕜 : Type} [RCLike 𝕜] {n p : ℕ}

namespace XP.WhitenM

theorem fracPower_toMatrix (V : Mat p p 𝕜) (s : Fin p → ℝ) (keep : Fin p → Bool) (q : ℝ) :
    (fracPower V s keep q).toMatrix = specPowM V.toMatrix s keep q := by
  unfold fracPower specPowM
  rw [toMatrix_mul, toMatrix_conjT]
  congr 1
  ext i j
  by_cases h : keep j = true <;> simp [Matrix.mul_diagonal, h]

theorem whitenCov_toMatrix (X : Mat n p 𝕜) :
    (whitenCov (ρ := ℝ) X).toMatrix = ((Gen.whitenerCovDenominator (n : ℝ) : ℝ) : 𝕜)⁻¹ • ((X.toMatrix)ᴴ * X.toMatrix) := by
  rw [whitenCov, toMatrix_ofFn_divReal, toMatrix_mul, toMatrix_conjT]; rfl

end XP.WhitenM
