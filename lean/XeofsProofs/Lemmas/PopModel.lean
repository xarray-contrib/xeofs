import XeofsProofs.Bridge
import XeofsModel.Pop
/-! POP (`XeofsModel/Pop.lean`): what the executable definitions compute, in Mathlib's matrix language (no property statements). -/
open XM Matrix

variable {𝕜 : Type} [RCLike 𝕜] {n p : ℕ}

namespace XP.PopM

/-- the zero-lag Gram matrix of the model is Hermitian -/
theorem lagZeroGram_hermitian (X : Mat n p 𝕜) : ((lagZeroGram X).toMatrix)ᴴ = (lagZeroGram X).toMatrix := by
  ext a b
  simp only [conjTranspose_apply, lagZeroGram, toMatrix_apply, Mat.get_ofFn, sumFin_eq, star_sum]
  refine Finset.sum_congr rfl fun t _ => ?_
  split_ifs <;> simp [mul_comm]

end XP.PopM
