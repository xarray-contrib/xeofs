import XeofsProofs.Bridge
import XeofsProofs.Lemmas.Columns
import XeofsProofs.Lemmas.SVDSpec
/-! EOF (`XeofsModel/Eof.lean`): what the executable definitions compute, in Mathlib's matrix language (no property statements). -/
open XM Matrix

variable {𝕜 : Type} [RCLike 𝕜] {n p k ru rv rs m : ℕ}

namespace XP.EofM

/-- column scalings by reals, the only ones the models use, are real diagonal matrices -/
theorem toMatrix_scaleCols_ofReal (A : Mat n k 𝕜) (c : Fin k → ℝ) :
    (A.scaleCols fun j => Entry.ofReal (c j)).toMatrix = A.toMatrix * rdiag c :=
  toMatrix_scaleCols A _

theorem toMatrix_divCols_rdiag (A : Mat n k 𝕜) (d : Fin k → ℝ) : (A.divCols d).toMatrix = A.toMatrix * rdiag fun j => (d j)⁻¹ := by
  rw [toMatrix_divCols]; simp [rdiag]

/-- rotators store everything with a mode axis signed and re-ordered: column `j` is column `σ j` times `sgn (σ j)` -/
theorem toMatrix_signPerm (A : Mat n k 𝕜) (sgn : Fin k → ℝ) (σ : Fin k → Fin k) :
    (Mat.ofFn fun i j => A.get i (σ j) * Entry.ofReal (sgn (σ j))).toMatrix = A.toMatrix * (rdiag sgn).submatrix id σ := by
  rw [← mul_submatrix_cols]; ext i j; simp [rdiag, Matrix.mul_diagonal]

section
variable (hu : k ≤ ru) (hv : k ≤ rv) (hs : k ≤ rs) (U : Mat n ru 𝕜) (s : Fin rs → ℝ) (V : Mat p rv 𝕜) (sgn : Fin k → ℝ)

theorem comps_toMatrix :
    (eofFit hu hv hs U s V sgn).comps.toMatrix = V.toMatrix.submatrix id (Fin.castLE hv) * rdiag sgn := by
  ext i j; simp [eofFit, rdiag, Matrix.mul_diagonal]

theorem scores_toMatrix :
    (eofFit hu hv hs U s V sgn).scores.toMatrix
      = U.toMatrix.submatrix id (Fin.castLE hu) * rdiag sgn * rdiag (fun j => s (Fin.castLE hs j)) := by
  ext i j; simp [eofFit, rdiag, Matrix.mul_diagonal]

end

/-- `X V_k = U_k Σ_k` for the leading `k` columns of an SVD -/
theorem proj_leading {r : ℕ} {X : Matrix (Fin n) (Fin p) 𝕜} {U : Matrix (Fin n) (Fin r) 𝕜} {s : Fin r → ℝ}
    {V : Matrix (Fin p) (Fin r) 𝕜} (h : XP.SVD.IsSVD X U s V) (e : Fin k → Fin r) :
    X * V.submatrix id e = U.submatrix id e * rdiag (fun j => s (e j)) := by
  rw [← mul_submatrix_cols, XP.SVD.transform_eq_scores h, mul_diagonal_submatrix_cols]; rfl

end XP.EofM
