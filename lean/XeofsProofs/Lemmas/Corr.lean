import Mathlib.Analysis.InnerProductSpace.PiL2
import Mathlib.LinearAlgebra.Matrix.ConjTranspose
import Mathlib.LinearAlgebra.Matrix.DotProduct
import Mathlib.Analysis.RCLike.Basic
import XeofsProofs.Lemmas.Columns

namespace XP.Corr
open Matrix Finset

variable {𝕜 : Type*} [RCLike 𝕜] {n p : ℕ}

/-- C09: a Pearson-type coefficient with consistent normalisation is a genuine correlation -/
theorem correlation_genuine (x y : Fin n → 𝕜) :
    ‖∑ t, star (x t) * y t‖ ≤ Real.sqrt (∑ t, ‖x t‖ ^ 2) * Real.sqrt (∑ t, ‖y t‖ ^ 2) := by
  -- Cauchy–Schwarz in `EuclideanSpace 𝕜 (Fin n)`
  have h := norm_inner_le_norm (𝕜 := 𝕜) (WithLp.toLp 2 x : EuclideanSpace 𝕜 (Fin n)) (WithLp.toLp 2 y)
  rw [EuclideanSpace.inner_toLp_toLp, dotProduct_comm, EuclideanSpace.norm_eq, EuclideanSpace.norm_eq] at h
  exact h

/-- self-correlation is exactly one (for a non-constant-zero series) -/
theorem self_correlation_one (x : Fin n → 𝕜) (hx : 0 < ∑ t, ‖x t‖ ^ 2) :
    (∑ t, star (x t) * x t) / ((Real.sqrt (∑ t, ‖x t‖ ^ 2) * Real.sqrt (∑ t, ‖x t‖ ^ 2) : ℝ) : 𝕜) = 1 := by
  simp only [star_mul_self_eq_norm_sq]
  rw [Real.mul_self_sqrt hx.le, ← RCLike.ofReal_sum]
  exact div_self (RCLike.ofReal_ne_zero.mpr hx.ne')

/-- C19 (first mode optimal): Rayleigh bound for a unitarily diagonalised Hermitian matrix with
descending real diagonal: no vector has a larger quotient than the first eigenvalue. -/
theorem rayleigh_le_first (A W : Matrix (Fin (p+1)) (Fin (p+1)) 𝕜) (d : Fin (p+1) → ℝ) (hd : Antitone d)
    (hW : W * Wᴴ = 1) (hA : A = W * diagonal (fun i => (d i : 𝕜)) * Wᴴ) (x : Fin (p+1) → 𝕜) :
    RCLike.re (star x ⬝ᵥ (A *ᵥ x)) ≤ d 0 * RCLike.re (star x ⬝ᵥ x) := by
  -- in the coordinates `Wᴴ x` both quadratic forms are weighted sums of the squared moduli of the coordinates
  have e1 : star x ⬝ᵥ (A *ᵥ x) = star (Wᴴ *ᵥ x) ⬝ᵥ (diagonal (fun i => (d i : 𝕜)) *ᵥ (Wᴴ *ᵥ x)) := by
    rw [hA, star_mulVec, conjTranspose_conjTranspose, ← dotProduct_mulVec, mulVec_mulVec, mulVec_mulVec, Matrix.mul_assoc]
  have e2 : star x ⬝ᵥ x = star (Wᴴ *ᵥ x) ⬝ᵥ (Wᴴ *ᵥ x) := by
    rw [star_mulVec, conjTranspose_conjTranspose, dotProduct_mulVec, vecMul_vecMul, hW, vecMul_one]
  rw [e1, e2]
  simp only [dotProduct, mulVec_diagonal, Pi.star_apply, map_sum, mul_sum]
  refine sum_le_sum fun i _ => ?_
  rw [mul_left_comm, star_mul_self_eq_norm_sq, ← RCLike.ofReal_mul, RCLike.ofReal_re, RCLike.ofReal_re]
  exact mul_le_mul_of_nonneg_right (hd (Fin.zero_le i)) (sq_nonneg _)

end XP.Corr
