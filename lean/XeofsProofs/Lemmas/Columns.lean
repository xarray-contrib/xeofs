import Mathlib.LinearAlgebra.Matrix.ConjTranspose
import Mathlib.LinearAlgebra.Matrix.DotProduct
import Mathlib.Analysis.RCLike.Basic
/-! Selecting, scaling, signing and re-ordering columns. Every model truncates a decomposition to its leading columns, flips their
signs, scales them by real numbers (singular values, norms) and, for rotators, re-orders them: `submatrix id e` and real diagonal
matrices `rdiag`. -/
open Matrix

section
variable {𝕜 : Type*} [RCLike 𝕜] {n p k m : ℕ}

/-- peels one pair of right factors off a product `X Yᴴ` -/
theorem mul_mul_conjTranspose (A : Matrix (Fin n) (Fin k) 𝕜) (B : Matrix (Fin p) (Fin k) 𝕜) (M N : Matrix (Fin k) (Fin m) 𝕜) :
    (A * M) * (B * N)ᴴ = A * (M * Nᴴ) * Bᴴ := by
  rw [conjTranspose_mul, Matrix.mul_assoc, Matrix.mul_assoc, Matrix.mul_assoc]

/-- the Gram matrix of a product, with the inner Gram matrix set apart -/
theorem gram_mul (B : Matrix (Fin n) (Fin k) 𝕜) (M : Matrix (Fin k) (Fin m) 𝕜) : (B * M)ᴴ * (B * M) = Mᴴ * (Bᴴ * B) * M := by
  rw [conjTranspose_mul, Matrix.mul_assoc, Matrix.mul_assoc, Matrix.mul_assoc]

theorem star_mul_self_eq_norm_sq (z : 𝕜) : star z * z = ((‖z‖ ^ 2 : ℝ) : 𝕜) := by
  rw [RCLike.star_def, RCLike.conj_mul, RCLike.ofReal_pow]

/-- a real diagonal matrix is Hermitian -/
theorem diagonal_ofReal_conjTranspose (d : Fin k → ℝ) : (diagonal fun i => (d i : 𝕜))ᴴ = diagonal fun i => (d i : 𝕜) :=
  (diagonal_conjTranspose _).trans (congrArg diagonal (funext fun i => RCLike.conj_ofReal (d i)))

theorem diagonal_ofReal_mul (c : ℝ) (d : Fin k → ℝ) :
    diagonal (fun i => ((c * d i : ℝ) : 𝕜)) = (c : 𝕜) • diagonal (fun i => (d i : 𝕜)) :=
  (congrArg diagonal (funext fun i => RCLike.ofReal_mul c (d i))).trans (diagonal_smul (c : 𝕜) fun i => (d i : 𝕜))

open scoped ComplexOrder in
/-- a column whose squared norm (diagonal Gram entry) vanishes is zero -/
theorem col_zero_of_gram_zero (A : Matrix (Fin n) (Fin k) 𝕜) (i : Fin k) (h : (Aᴴ * A) i i = 0) (j : Fin n) : A j i = 0 :=
  congrFun ((dotProduct_star_self_eq_zero (v := fun j => A j i)).mp h) j

end

variable {𝕜 : Type} [RCLike 𝕜] {n p k r : ℕ}

/-- selecting columns with an injective map keeps orthonormal columns orthonormal -/
theorem submatrix_cols_orthonormal (V : Matrix (Fin p) (Fin r) 𝕜) (e : Fin k → Fin r)
    (he : Function.Injective e) (hV : Vᴴ * V = 1) :
    (V.submatrix id e)ᴴ * (V.submatrix id e) = 1 := by
  rw [conjTranspose_submatrix, ← Matrix.submatrix_mul _ _ _ _ _ Function.bijective_id, hV, Matrix.submatrix_one _ he]

namespace XP.EofM

/-- real diagonal as a 𝕜-matrix -/
noncomputable def rdiag (d : Fin k → ℝ) : Matrix (Fin k) (Fin k) 𝕜 := diagonal fun j => (d j : 𝕜)

theorem rdiag_mul (a b : Fin k → ℝ) : (rdiag a : Matrix (Fin k) (Fin k) 𝕜) * rdiag b = rdiag (fun j => a j * b j) := by
  simp [rdiag, diagonal_mul_diagonal]

theorem rdiag_conjTranspose (a : Fin k → ℝ) : (rdiag a : Matrix (Fin k) (Fin k) 𝕜)ᴴ = rdiag a :=
  diagonal_ofReal_conjTranspose a

theorem rdiag_one_of_sq (sgn : Fin k → ℝ) (h : ∀ j, sgn j * sgn j = 1) :
    (rdiag sgn : Matrix (Fin k) (Fin k) 𝕜) * rdiag sgn = 1 := by
  rw [rdiag_mul]; simp [rdiag, h]

/-- orthonormal columns stay orthonormal when signs are flipped -/
theorem orthonormal_mul_rdiag_sgn {A : Matrix (Fin p) (Fin k) 𝕜} (hA : Aᴴ * A = 1) (sgn : Fin k → ℝ) (h : ∀ j, sgn j * sgn j = 1) :
    (A * rdiag (𝕜 := 𝕜) sgn)ᴴ * (A * rdiag (𝕜 := 𝕜) sgn) = 1 := by
  rw [conjTranspose_mul, rdiag_conjTranspose, Matrix.mul_assoc, ← Matrix.mul_assoc Aᴴ, hA, Matrix.one_mul, rdiag_one_of_sq sgn h]

/-- flipping signs on both sides of a real diagonal changes nothing -/
theorem rdiag_sgn_conj (sgn d : Fin k → ℝ) (h : ∀ j, sgn j * sgn j = 1) :
    (rdiag sgn : Matrix (Fin k) (Fin k) 𝕜) * rdiag d * rdiag sgn = rdiag d := by
  rw [rdiag_mul, rdiag_mul]
  congr 1; funext j
  rw [mul_right_comm, h j, one_mul]

/-- signs and a re-ordering of the modes together are a unitary matrix -/
theorem signPerm_unitary (sgn : Fin k → ℝ) (h : ∀ j, sgn j * sgn j = 1) (σ : Fin k ≃ Fin k) :
    ((rdiag sgn : Matrix (Fin k) (Fin k) 𝕜).submatrix id σ) * ((rdiag sgn : Matrix (Fin k) (Fin k) 𝕜).submatrix id σ)ᴴ = 1 := by
  rw [conjTranspose_submatrix, Matrix.submatrix_mul_equiv, rdiag_conjTranspose, rdiag_one_of_sq sgn h, submatrix_id_id]

theorem mul_submatrix_cols {a b c d : ℕ} (A : Matrix (Fin a) (Fin b) 𝕜) (B : Matrix (Fin b) (Fin c) 𝕜) (e : Fin d → Fin c) :
    (A * B).submatrix id e = A * B.submatrix id e := by
  rw [Matrix.submatrix_mul A B id id e Function.bijective_id, submatrix_id_id]

theorem mul_diagonal_submatrix_cols {a c d : ℕ} (A : Matrix (Fin a) (Fin c) 𝕜) (w : Fin c → 𝕜) (e : Fin d → Fin c) :
    (A * diagonal w).submatrix id e = A.submatrix id e * diagonal (fun j => w (e j)) := by
  ext i j; simp [Matrix.mul_diagonal]

end XP.EofM
