import XeofsProofs.Lemmas.RotModel
import XeofsModel.Crot
/-! CPCCARotator (`XeofsModel/Crot.lean`): what the executable definitions compute, in Mathlib's matrix language (no property statements). -/
open XM Matrix XP.EofM

variable {𝕜 : Type} [RCLike 𝕜] {n p q p' q' k m : ℕ}

namespace XP.CrotM

omit [RCLike 𝕜] in
theorem topRows_vstack (A : Mat p k 𝕜) (B : Mat q k 𝕜) : (topRows (vstack A B)).toMatrix = A.toMatrix := by
  ext i j; simp [topRows, vstack]

omit [RCLike 𝕜] in
theorem bottomRows_vstack (A : Mat p k 𝕜) (B : Mat q k 𝕜) : (bottomRows (vstack A B)).toMatrix = B.toMatrix := by
  ext i j; simp [bottomRows, vstack]

/-- the top block of a product is the product of the top block -/
theorem topRows_mul (L : Mat (p + q) k 𝕜) (R : Mat k m 𝕜) : (topRows (L.mul R)).toMatrix = (topRows L).toMatrix * R.toMatrix := by
  ext i j; simp [topRows, Mat.mul, sumFin_eq, Matrix.mul_apply]

theorem topRows_scaleCols (L : Mat (p + q) k 𝕜) (d : Fin k → 𝕜) :
    (topRows (L.scaleCols d)).toMatrix = (topRows L).toMatrix * diagonal d := by
  ext i j; simp [topRows, Mat.scaleCols, Matrix.mul_diagonal]

/-- the first field's block of the rotated loadings: `A₁ Q₁ · diag(√s) · R` -/
theorem topRows_crotLoadings (A1 : Mat p p' 𝕜) (A2 : Mat q q' 𝕜) (Q1 : Mat p' k 𝕜) (Q2 : Mat q' k 𝕜) (s : Fin k → ℝ) (R : Mat k k 𝕜) :
    (topRows (crotLoadings A1 A2 Q1 Q2 s R)).toMatrix
      = A1.toMatrix * Q1.toMatrix * rdiag (fun j => Real.sqrt (s j)) * R.toMatrix := by
  rw [crotLoadings, topRows_mul, topRows_scaleCols, topRows_vstack, toMatrix_mul]
  rfl

theorem crotNorms_nonneg (X : Mat p k 𝕜) (j : Fin k) : 0 ≤ crotNorms (ρ := ℝ) X j := Real.sqrt_nonneg _

theorem crotScoresUnsorted_toMatrix (S : Mat n k 𝕜) (s : Fin k → ℝ) (RinvT : Mat k k 𝕜) (norms : Fin k → ℝ) :
    (crotScoresUnsorted S s RinvT norms).toMatrix
      = S.toMatrix * rdiag (𝕜 := 𝕜) (fun j => (Real.sqrt (s j))⁻¹) * RinvT.toMatrix * rdiag (𝕜 := 𝕜) norms := by
  rw [crotScoresUnsorted, toMatrix_scaleCols_ofReal, toMatrix_mul, toMatrix_divCols_rdiag]
  rfl

section
variable (A1 : Mat p p' 𝕜) (A2 : Mat q q' 𝕜) (B1 : Mat p' p 𝕜) (B2 : Mat q' q 𝕜) (Q1 : Mat p' k 𝕜) (Q2 : Mat q' k 𝕜)
  (s : Fin k → ℝ) (S1 S2 : Mat n k 𝕜) (R RinvT : Mat k k 𝕜) (sgn : Fin k → ℝ) (σ : Fin k ≃ Fin k)

/-- what `crotFit` stores for the first field: the unsorted vectors / scores times the signs-and-order matrix -/
theorem comps1_toMatrix :
    (crotFit A1 A2 B1 B2 Q1 Q2 s S1 S2 R RinvT sgn σ).comps1.toMatrix
      = ((B1.mul (topRows (crotLoadings A1 A2 Q1 Q2 s R))).divCols
            (crotNorms (ρ := ℝ) (B1.mul (topRows (crotLoadings A1 A2 Q1 Q2 s R))))).toMatrix * (rdiag sgn).submatrix id σ :=
  toMatrix_signPerm _ sgn σ

theorem scores1_toMatrix :
    (crotFit A1 A2 B1 B2 Q1 Q2 s S1 S2 R RinvT sgn σ).scores1.toMatrix
      = (crotScoresUnsorted S1 s RinvT (crotNorms (ρ := ℝ) (B1.mul (topRows (crotLoadings A1 A2 Q1 Q2 s R))))).toMatrix
          * (rdiag sgn).submatrix id σ :=
  toMatrix_signPerm _ sgn σ

end

end XP.CrotM
