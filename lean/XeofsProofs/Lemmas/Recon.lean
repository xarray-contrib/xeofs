import XeofsProofs.Lemmas.FullSVD

namespace XP.Recon
open Matrix Finset

variable {𝕜 : Type*} [RCLike 𝕜] {n p : ℕ}

noncomputable def frob2 (A : Matrix (Fin n) (Fin p) 𝕜) : ℝ := RCLike.re (trace (Aᴴ * A))

def rectDiag (𝕜 : Type*) [RCLike 𝕜] (n : ℕ) {p : ℕ} (s : Fin p → ℝ) : Matrix (Fin n) (Fin p) 𝕜 :=
  fun i j => if (i : ℕ) = (j : ℕ) then (s j : 𝕜) else 0

/-- the same matrix as `XP.Full.rectDiag`, with the scalar type explicit -/
theorem rectDiag_eq (s : Fin p → ℝ) : rectDiag 𝕜 n s = XP.Full.rectDiag n s := rfl

theorem rectDiag_gram (s : Fin p → ℝ) (hpad : ∀ j : Fin p, n ≤ (j : ℕ) → s j = 0) :
    (rectDiag 𝕜 n s)ᴴ * rectDiag 𝕜 n s = diagonal (fun j => ((s j ^ 2 : ℝ) : 𝕜)) :=
  XP.Full.rectDiag_gram s hpad

/-- truncation of the singular values to the first `k` (what `U[:, :k], s[:k], VT[:k]` keeps) -/
def truncS (k : ℕ) (s : Fin p → ℝ) : Fin p → ℝ := fun j => if (j : ℕ) < k then s j else 0
def tailS (k : ℕ) (s : Fin p → ℝ) : Fin p → ℝ := fun j => if (j : ℕ) < k then 0 else s j

theorem rectDiag_sub (k : ℕ) (s : Fin p → ℝ) :
    rectDiag 𝕜 n s - rectDiag 𝕜 n (truncS k s) = rectDiag 𝕜 n (tailS k s) := by
  ext i j
  rw [Matrix.sub_apply]
  by_cases h : (i : ℕ) = (j : ℕ) <;> by_cases hk : (j : ℕ) < k <;> simp [rectDiag, truncS, tailS, h, hk]

/-- **C01 recon_error**: the rank-`k` truncation `X_k = U Σ_k Vᴴ` misses exactly the tail `Σ_{i ≥ k} s_i²`. -/
theorem recon_error (U : Matrix (Fin n) (Fin n) 𝕜) (V : Matrix (Fin p) (Fin p) 𝕜) (s : Fin p → ℝ) (k : ℕ)
    (hU : Uᴴ * U = 1) (hV : Vᴴ * V = 1) (hpad : ∀ j : Fin p, n ≤ (j : ℕ) → s j = 0) :
    frob2 (𝕜 := 𝕜) (U * rectDiag 𝕜 n s * Vᴴ - U * rectDiag 𝕜 n (truncS k s) * Vᴴ)
      = ∑ i ∈ univ.filter (fun i : Fin p => ¬ i.val < k), s i ^ 2 := by
  have hpad' : ∀ j : Fin p, n ≤ (j : ℕ) → tailS k s j = 0 := fun j hj => by
    rw [tailS, hpad j hj, ite_self]
  have hdiff : U * rectDiag 𝕜 n s * Vᴴ - U * rectDiag 𝕜 n (truncS k s) * Vᴴ
      = U * XP.Full.rectDiag n (tailS k s) * Vᴴ := by
    rw [← Matrix.sub_mul, ← Matrix.mul_sub, rectDiag_sub, rectDiag_eq]
  rw [frob2, XP.Full.gram_of_factors hU hdiff hpad', Matrix.mul_assoc, trace_mul_comm, Matrix.mul_assoc, hV,
    Matrix.mul_one, trace_diagonal, map_sum, Finset.sum_filter]
  refine Finset.sum_congr rfl fun i _ => ?_
  rw [RCLike.ofReal_re, tailS, ite_not]
  split_ifs <;> simp

/-- … and the truncation has rank at most `k` -/
theorem trunc_rank_le (U : Matrix (Fin n) (Fin n) 𝕜) (V : Matrix (Fin p) (Fin p) 𝕜) (s : Fin p → ℝ) (k : ℕ) :
    (U * rectDiag 𝕜 n (truncS k s) * Vᴴ).rank ≤ k := by
  -- only the first `k` rows of `Σ_k` are non-zero
  have hrows : Function.support (rectDiag 𝕜 n (truncS k s)).row ⊆ univ.filter (fun i : Fin n => (i : ℕ) < k) := by
    refine Function.support_subset_iff'.mpr fun i hi => funext fun j => ?_
    rw [mem_coe, mem_filter_univ] at hi
    simp only [row_apply, rectDiag, truncS, Pi.zero_apply, ite_eq_right_iff]
    intro h
    rw [if_neg (h ▸ hi), RCLike.ofReal_zero]
  calc (U * rectDiag 𝕜 n (truncS k s) * Vᴴ).rank ≤ (U * rectDiag 𝕜 n (truncS k s)).rank := rank_mul_le_left _ _
    _ ≤ (rectDiag 𝕜 n (truncS k s)).rank := rank_mul_le_right _ _
    _ ≤ (univ.filter (fun i : Fin n => (i : ℕ) < k)).card := rank_le_card_of_support_subset _ _ hrows
    _ ≤ k := by
        rw [Fin.card_filter_val_lt]
        exact min_le_right _ _

end XP.Recon
