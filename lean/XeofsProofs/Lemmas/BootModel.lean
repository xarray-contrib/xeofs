import XeofsProofs.Lemmas.EofModel
import XeofsModel.Boot
/-! bootstrap member (`XeofsModel/Boot.lean`): what the executable definitions compute, in Mathlib's matrix language (no property statements). -/
open XM Matrix XP.EofM

variable {𝕜 : Type} [RCLike 𝕜] {n p k r : ℕ}

namespace XP.BootM

theorem comps_toMatrix (hk : k ≤ r) (D : Mat n p 𝕜) (idx : Fin n → Fin n) (U : Mat n r 𝕜) (s : Fin r → ℝ) (V : Mat p r 𝕜)
    (sd sa : Fin k → ℝ) :
    (bootMember hk D idx U s V sd sa).comps.toMatrix
      = V.toMatrix.submatrix id (Fin.castLE hk) * rdiag sd * rdiag sa := by
  rw [← XP.EofM.comps_toMatrix hk hk hk U s V sd]; exact toMatrix_scaleCols_ofReal _ sa

/-- **member scores are the projection of the ORIGINAL samples** (centred with the resample's mean) on the member's components -/
theorem member_scores_are_projection (hk : k ≤ r) (D : Mat n p 𝕜) (idx : Fin n → Fin n) (U : Mat n r 𝕜) (s : Fin r → ℝ)
    (V : Mat p r 𝕜) (sd sa : Fin k → ℝ) :
    (bootMember hk D idx U s V sd sa).scores.toMatrix
      = (centreWith D (colMeans (ρ := ℝ) (resample D idx))).toMatrix * (bootMember hk D idx U s V sd sa).comps.toMatrix := by
  simp only [bootMember, toMatrix_scaleCols, toMatrix_mul, Matrix.mul_assoc]

end XP.BootM
