import Mathlib.LinearAlgebra.Matrix.ConjTranspose
import Mathlib.LinearAlgebra.Matrix.Hermitian
import Mathlib.Analysis.RCLike.Basic
import Mathlib.LinearAlgebra.Matrix.Trace
import XeofsProofs.Lemmas.Columns

namespace XP.SVD
open Matrix

variable {𝕜 : Type*} [RCLike 𝕜] {n p r : ℕ}

structure IsSVD (X : Matrix (Fin n) (Fin p) 𝕜) (U : Matrix (Fin n) (Fin r) 𝕜) (s : Fin r → ℝ)
    (V : Matrix (Fin p) (Fin r) 𝕜) : Prop where
  hU : Uᴴ * U = 1
  hV : Vᴴ * V = 1
  hX : X = U * diagonal (fun i => (s i : 𝕜)) * Vᴴ
  nonneg : ∀ i, 0 ≤ s i
  anti : Antitone s

variable {X : Matrix (Fin n) (Fin p) 𝕜} {U : Matrix (Fin n) (Fin r) 𝕜} {s : Fin r → ℝ}
  {V : Matrix (Fin p) (Fin r) 𝕜}

theorem transform_eq_scores (h : IsSVD X U s V) :
    X * V = U * diagonal (fun i => (s i : 𝕜)) := by
  rw [h.hX, Matrix.mul_assoc, h.hV, Matrix.mul_one]

theorem scores_gram (h : IsSVD X U s V) :
    (U * diagonal (fun i => (s i : 𝕜)))ᴴ * (U * diagonal (fun i => (s i : 𝕜)))
      = diagonal (fun i => ((s i : 𝕜)^2)) := by
  rw [gram_mul, h.hU, Matrix.mul_one, diagonal_ofReal_conjTranspose, diagonal_mul_diagonal]
  exact congrArg diagonal (funext fun i => (sq _).symm)

theorem cov_eigen (h : IsSVD X U s V) :
    (Xᴴ * X) * V = V * diagonal (fun i => ((s i : 𝕜)^2)) := by
  -- `Xᴴ (X V) = Xᴴ (U Σ)` and `Xᴴ = V (U Σ)ᴴ`
  rw [Matrix.mul_assoc, transform_eq_scores h, h.hX, conjTranspose_mul, conjTranspose_conjTranspose, Matrix.mul_assoc,
    scores_gram h]

end XP.SVD
