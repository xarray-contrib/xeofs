import Mathlib.LinearAlgebra.Matrix.ConjTranspose
import Mathlib.LinearAlgebra.Matrix.Hermitian
import Mathlib.Analysis.RCLike.Basic
import XeofsProofs.Lemmas.Columns

namespace XP.Phase
open Matrix

variable {𝕜 : Type*} [RCLike 𝕜] {n p : ℕ}

/-- a matrix that commutes with a diagonal matrix of distinct entries is diagonal -/
theorem eq_diagonal_of_commute {d : Fin p → 𝕜} (hd : Function.Injective d) {G : Matrix (Fin p) (Fin p) 𝕜}
    (h : diagonal d * G = G * diagonal d) : G = diagonal fun j => G j j := by
  ext i j
  obtain rfl | hij := eq_or_ne i j
  · rw [diagonal_apply_eq]
  · have hG := congrFun (congrFun h i) j
    rw [diagonal_mul, mul_diagonal, mul_comm (G i j), ← sub_eq_zero, ← sub_mul] at hG
    rw [diagonal_apply_ne _ hij]
    exact (mul_eq_zero.mp hG).resolve_left (sub_ne_zero.mpr (hd.ne hij))

/-- **gauge freedom of the eigenvectors is exactly one unit scalar per mode** when the spectrum is simple:
two unitary diagonalisations of the same matrix with the same strictly descending diagonal differ by a
diagonal matrix of unit-modulus entries (±1 in the real case). -/
theorem eigvec_unique_up_to_phase (V V' : Matrix (Fin p) (Fin p) 𝕜) (d : Fin p → ℝ) (hd : StrictAnti d)
    (hV : V * Vᴴ = 1) (hV' : V'ᴴ * V' = 1)
    (h : V * diagonal (fun i => (d i : 𝕜)) * Vᴴ = V' * diagonal (fun i => (d i : 𝕜)) * V'ᴴ) :
    ∃ θ : Fin p → 𝕜, (∀ j, star (θ j) * θ j = 1) ∧ V' = V * diagonal θ := by
  have hVl : Vᴴ * V = 1 := mul_eq_one_comm.mp hV
  set G := Vᴴ * V' with hG
  set D : Matrix (Fin p) (Fin p) 𝕜 := diagonal (fun i => (d i : 𝕜)) with hD
  have hcomm : D * G = G * D :=
    calc D * G = Vᴴ * (V * D * Vᴴ) * V' := by
          rw [Matrix.mul_assoc V, ← Matrix.mul_assoc Vᴴ, hVl, Matrix.one_mul, Matrix.mul_assoc]
      _ = G * D := by
          rw [h, Matrix.mul_assoc, Matrix.mul_assoc (V' * D), hV', Matrix.mul_one, ← Matrix.mul_assoc]
  have hGdiag := eq_diagonal_of_commute (RCLike.ofReal_injective.comp hd.injective) hcomm
  have hGu : Gᴴ * G = 1 := by
    rw [hG, gram_mul, conjTranspose_conjTranspose, hV, Matrix.mul_one, hV']
  refine ⟨fun j => G j j, fun j => ?_, ?_⟩
  · have hj := congrFun (congrFun hGu j) j
    rwa [hGdiag, diagonal_conjTranspose, diagonal_mul_diagonal, diagonal_apply_eq, one_apply_eq] at hj
  · rw [← hGdiag, hG, ← Matrix.mul_assoc, hV, Matrix.one_mul]

end XP.Phase
