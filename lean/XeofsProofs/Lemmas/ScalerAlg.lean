import Mathlib.Analysis.RCLike.Basic
import Mathlib.Analysis.SpecialFunctions.Pow.Real
import Mathlib.Algebra.BigOperators.Field
import Mathlib.Analysis.InnerProductSpace.PiL2

namespace XP.Scaler
open Finset

variable {𝕜 : Type*} [RCLike 𝕜] {n : ℕ}

/-- column mean, population variance (ddof = 0, as `xarray.std`), as the Scaler computes them -/
noncomputable def cmean (x : Fin n → 𝕜) : 𝕜 := (∑ t, x t) / n
noncomputable def cvar0 (x : Fin n → 𝕜) : ℝ := (∑ t, RCLike.normSq (x t - cmean x)) / n
noncomputable def cstd0 (x : Fin n → 𝕜) : ℝ := Real.sqrt (cvar0 x)

/-- the column mean commutes with affine maps -/
theorem cmean_affine (hn : 0 < n) (x : Fin n → 𝕜) (a b : 𝕜) : cmean (fun t => a * x t + b) = a * cmean x + b := by
  have hn' : (n : 𝕜) ≠ 0 := Nat.cast_ne_zero.mpr hn.ne'
  rw [cmean, cmean, sum_add_distrib, ← mul_sum, Fin.sum_const, nsmul_eq_mul, add_div, mul_div_assoc,
    mul_div_cancel_left₀ _ hn']

/-- C08: with centring on, adding a constant to a feature changes nothing -/
theorem center_shift_invariant (hn : 0 < n) (x : Fin n → 𝕜) (c : 𝕜) (t : Fin n) :
    (x t + c) - cmean (fun t => x t + c) = x t - cmean x := by
  have h := cmean_affine hn x 1 c
  simp only [one_mul] at h
  rw [h, add_sub_add_right_eq_sub]

/-- the Scaler's centred output has zero column mean (needed for `total variance = trace of covariance`) -/
theorem centred_mean_zero (hn : 0 < n) (x : Fin n → 𝕜) : ∑ t, (x t - cmean x) = 0 := by
  have hn' : (n : 𝕜) ≠ 0 := Nat.cast_ne_zero.mpr hn.ne'
  rw [sum_sub_distrib, Fin.sum_const, nsmul_eq_mul, cmean, mul_div_cancel₀ _ hn', sub_self]

theorem cstd0_affine (hn : 0 < n) (x : Fin n → 𝕜) (a : ℝ) (ha : 0 < a) (b : 𝕜) :
    cstd0 (fun t => (a : 𝕜) * x t + b) = a * cstd0 x := by
  unfold cstd0 cvar0
  rw [cmean_affine hn x a b]
  -- each deviation from the mean is multiplied by `a`
  simp only [add_sub_add_right_eq_sub, ← mul_sub, map_mul, RCLike.normSq_eq_def' (a : 𝕜), RCLike.norm_ofReal, sq_abs]
  rw [← mul_sum, mul_div_assoc, Real.sqrt_mul (sq_nonneg a), Real.sqrt_sq ha.le]

/-- C08: with standardisation on, a positive affine rescaling of a feature changes nothing
(both standard deviations above the clip floor, so the clip is inactive) -/
theorem standardize_affine_invariant (hn : 0 < n) (x : Fin n → 𝕜) (a : ℝ) (ha : 0 < a) (b : 𝕜)
    (hs : cstd0 x ≠ 0) (t : Fin n) :
    (((a : 𝕜) * x t + b) - cmean (fun t => (a : 𝕜) * x t + b)) / ((cstd0 (fun t => (a : 𝕜) * x t + b) : ℝ) : 𝕜)
      = (x t - cmean x) / ((cstd0 x : ℝ) : 𝕜) := by
  have ha' : (a : 𝕜) ≠ 0 := RCLike.ofReal_ne_zero.mpr ha.ne'
  rw [cmean_affine hn x a b, cstd0_affine hn x a ha b, add_sub_add_right_eq_sub, ← mul_sub, RCLike.ofReal_mul,
    mul_div_mul_left _ _ ha']

/-- C03: the Scaler's inverse chain undoes its forward chain (field identity) -/
theorem scaler_inverse_left (x μ σ c w : 𝕜) (hσ : σ ≠ 0) (hc : c ≠ 0) (hw : w ≠ 0) :
    (((x - μ) / σ * c * w) / w / c * σ + μ) = x := by
  rw [mul_div_cancel_right₀ _ hw, mul_div_cancel_right₀ _ hc, div_mul_cancel₀ _ hσ, sub_add_cancel]
theorem scaler_inverse_right (y μ σ c w : 𝕜) (hσ : σ ≠ 0) (hc : c ≠ 0) (hw : w ≠ 0) :
    ((y / w / c * σ + μ) - μ) / σ * c * w = y := by
  rw [add_sub_cancel_right, mul_div_cancel_right₀ _ hσ, div_mul_cancel₀ _ hc, div_mul_cancel₀ _ hw]

/-- C08: user weights ≡ fitting the pre-multiplied data (centring on or off, standardisation off) -/
theorem weights_eq_premultiplied (hn : 0 < n) (x : Fin n → 𝕜) (w : 𝕜) (t : Fin n) :
    (x t - cmean x) * w = (x t * w) - cmean (fun t => x t * w) := by
  rw [sub_mul, cmean, cmean, ← sum_mul, div_mul_eq_mul_div]

end XP.Scaler
