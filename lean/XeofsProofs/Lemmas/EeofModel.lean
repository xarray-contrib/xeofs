import XeofsModel.Eeof
import Mathlib.Tactic.Linarith
/-! delay embedding (`XeofsModel/Eeof.lean`): what the executable definitions compute, in Mathlib's matrix language (no property statements). -/
open XM

namespace XP.EeofM

variable {α : Type} [Zero α] {n p : ℕ}

theorem kept_rows_in_range (tau emb : ℕ) (t : Fin (Gen.eeofSamplesKept n emb tau)) (e : Fin emb) :
    t.val + Gen.eeofShift e.val tau < n := by
  have ht := t.isLt
  have he : e.val ≤ emb - 1 := Nat.le_sub_one_of_lt e.isLt
  have hmul : e.val * tau ≤ (emb - 1) * tau := Nat.mul_le_mul_right tau he
  simp only [Gen.eeofSamplesKept] at ht
  simp only [Gen.eeofShift]
  omega

end XP.EeofM
