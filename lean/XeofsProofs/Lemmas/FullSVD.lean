import Mathlib.Analysis.Matrix.Spectrum

namespace XP.Full
open Matrix Polynomial Finset

variable {𝕜 : Type*} [RCLike 𝕜] {n p : ℕ}

/-- rectangular diagonal matrix Σ(s) of a full SVD; `s : Fin p → ℝ` is the singular-value vector padded
with zeros beyond `min n p` (hypothesis `hpad`) -/
def rectDiag (n : ℕ) (s : Fin p → ℝ) : Matrix (Fin n) (Fin p) 𝕜 :=
  fun i j => if (i : ℕ) = (j : ℕ) then (s j : 𝕜) else 0

theorem rectDiag_gram (s : Fin p → ℝ) (hpad : ∀ j : Fin p, n ≤ (j : ℕ) → s j = 0) :
    (rectDiag n s : Matrix (Fin n) (Fin p) 𝕜)ᴴ * rectDiag n s = diagonal (fun j => ((s j ^ 2 : ℝ) : 𝕜)) := by
  ext j j'
  simp only [mul_apply, conjTranspose_apply, rectDiag, diagonal_apply]
  -- column `j` of `Σ` has its only entry in row `j`, if there is such a row
  by_cases hj : (j : ℕ) < n
  · rw [Fintype.sum_eq_single ⟨j, hj⟩ fun i hi => by simp [Fin.val_ne_of_ne hi]]
    obtain rfl | hne := eq_or_ne j j'
    · simp [pow_two]
    · simp [hne, Fin.val_ne_of_ne hne]
  · rw [Finset.sum_eq_zero fun i _ => by simp [(i.isLt.trans_le (not_lt.mp hj)).ne], hpad j (not_lt.mp hj)]
    simp

/-- `(U Σ Vᴴ)ᴴ (U Σ Vᴴ) = V Σ² Vᴴ`: the part of `IsFullSVD` that the Gram matrix needs -/
theorem gram_of_factors {X : Matrix (Fin n) (Fin p) 𝕜} {U : Matrix (Fin n) (Fin n) 𝕜} {s : Fin p → ℝ}
    {V : Matrix (Fin p) (Fin p) 𝕜} (hU : Uᴴ * U = 1) (hX : X = U * rectDiag n s * Vᴴ)
    (hpad : ∀ j : Fin p, n ≤ (j : ℕ) → s j = 0) :
    Xᴴ * X = V * diagonal (fun j => ((s j ^ 2 : ℝ) : 𝕜)) * Vᴴ := by
  rw [hX]
  simp only [conjTranspose_mul, conjTranspose_conjTranspose, Matrix.mul_assoc]
  rw [← Matrix.mul_assoc Uᴴ, hU, Matrix.one_mul, ← Matrix.mul_assoc (rectDiag n s)ᴴ, rectDiag_gram s hpad]

/-- full SVD (numpy `np.linalg.svd(X)`, `full_matrices=True`) -/
structure IsFullSVD (X : Matrix (Fin n) (Fin p) 𝕜) (U : Matrix (Fin n) (Fin n) 𝕜) (s : Fin p → ℝ)
    (V : Matrix (Fin p) (Fin p) 𝕜) : Prop where
  hU : Uᴴ * U = 1
  hV : V * Vᴴ = 1
  hX : X = U * rectDiag n s * Vᴴ
  nonneg : ∀ i, 0 ≤ s i
  anti : Antitone s
  pad : ∀ j : Fin p, n ≤ (j : ℕ) → s j = 0

theorem gram_of_fullSVD {X : Matrix (Fin n) (Fin p) 𝕜} {U s V} (h : IsFullSVD X U s V) :
    Xᴴ * X = V * diagonal (fun j => ((s j ^ 2 : ℝ) : 𝕜)) * Vᴴ :=
  gram_of_factors h.hU h.hX h.pad

-- (A.4)
theorem eigenvalues₀_eq_of_diag {A : Matrix (Fin p) (Fin p) 𝕜} (hA : A.IsHermitian)
    (W : Matrix (Fin p) (Fin p) 𝕜) (hW : W * Wᴴ = 1) (d : Fin p → ℝ) (hd : Antitone d)
    (h : A = W * diagonal (fun i => (d i : 𝕜)) * Wᴴ) :
    List.ofFn hA.eigenvalues₀ = List.ofFn d := by
  have hW' : Wᴴ * W = 1 := mul_eq_one_comm.mp hW
  have hcp : A.charpoly = ∏ i, (X - C ((d i : 𝕜))) := by
    rw [h, Matrix.mul_assoc, charpoly_mul_comm, Matrix.mul_assoc, hW', Matrix.mul_one, charpoly_diagonal]
  have hroots : A.charpoly.roots = Multiset.map (fun i => (d i : 𝕜)) Finset.univ.val := by
    rw [hcp, Polynomial.roots_prod _ _ (Finset.prod_ne_zero_iff.mpr fun i _ => X_sub_C_ne_zero _)]
    simp only [roots_X_sub_C, Multiset.bind_singleton]
  rw [← hA.sort_roots_charpoly_eq_eigenvalues₀, hroots]
  simp_rw [Fin.univ_val_map, Multiset.map_coe, List.map_ofFn, Function.comp_def, RCLike.ofReal_re,
    Multiset.coe_sort]
  apply List.mergeSort_of_pairwise
  simp_rw [decide_eq_true_eq, ← List.sortedGE_iff_pairwise]
  exact hd.sortedGE_ofFn

/-- **C01**: the explained variances `s_i²/(n-1)` reported by the EOF model are, in descending order,
the eigenvalues (Mathlib's canonical descending enumeration) of the sample covariance `XᴴX/(n-1)`. -/
theorem expvar_are_eigenvalues {X : Matrix (Fin n) (Fin p) 𝕜} {U s V} (h : IsFullSVD X U s V) (hn : 2 ≤ n)
    (hC : (((n : ℝ) - 1)⁻¹ : 𝕜) • (Xᴴ * X) |>.IsHermitian) :
    List.ofFn hC.eigenvalues₀ = List.ofFn (fun j => s j ^ 2 / ((n : ℝ) - 1)) := by
  have hpos : 0 < (n : ℝ) - 1 := by
    have : (2 : ℝ) ≤ n := by exact_mod_cast hn
    linarith
  apply eigenvalues₀_eq_of_diag hC V h.hV
  · intro i j hij
    exact div_le_div_of_nonneg_right (pow_le_pow_left₀ (h.nonneg j) (h.anti hij) 2) hpos.le
  · rw [gram_of_fullSVD h, ← Matrix.smul_mul, ← Matrix.mul_smul, ← diagonal_smul]
    congr 3
    funext j
    rw [Pi.smul_apply, smul_eq_mul, div_eq_inv_mul, RCLike.ofReal_mul, RCLike.ofReal_inv, RCLike.ofReal_sub,
      RCLike.ofReal_one]

end XP.Full
