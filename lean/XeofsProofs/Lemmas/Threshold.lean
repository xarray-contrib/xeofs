import XeofsModel.Generated.Threshold
/-! theorem about the GENERATED threshold definitions (core only) -/
namespace Thr

/-- in a non-decreasing list the entries below `f` are exactly those in front of the last `countP (· ≥ f)` positions -/
theorem lt_iff_of_sorted (cum : List Int) (f : Int) (h : cum.Pairwise (· ≤ ·)) (i : Nat) (hi : i < cum.length) :
    cum[i] < f ↔ i < cum.length - cum.countP (fun c => decide (c ≥ f)) := by
  induction cum generalizing i with
  | nil => exact absurd hi (Nat.not_lt_zero i)
  | cons a t ih =>
    rw [List.pairwise_cons] at h
    by_cases ha : f ≤ a
    · -- the head reaches `f`, so does everything after it
      have hall : ∀ c ∈ a :: t, decide (c ≥ f) = true := fun c hc =>
        decide_eq_true ((List.mem_cons.mp hc).elim (fun e => e ▸ ha) fun hc => Int.le_trans ha (h.1 c hc))
      rw [List.countP_eq_length.mpr hall, Nat.sub_self]
      exact ⟨fun hlt => absurd (of_decide_eq_true (hall _ (List.getElem_mem hi))) (Int.not_le.mpr hlt),
        fun h0 => absurd h0 (Nat.not_lt_zero i)⟩
    · rw [List.countP_cons_of_neg (p := fun c => decide (c ≥ f)) (mt of_decide_eq_true ha), List.length_cons,
        Nat.succ_sub List.countP_le_length]
      cases i with
      | zero => exact ⟨fun _ => Nat.succ_pos _, fun _ => Int.not_le.mp ha⟩
      | succ j =>
        rw [List.getElem_cons_succ, Nat.succ_lt_succ_iff]
        exact ih h.2 j (Nat.lt_of_succ_lt_succ hi)

/-- **C15 threshold_minimal** for the code as it is written now: if the cumulative fractions are
non-decreasing, the number of modes kept is the least `m` such that `cum[m-1] ≥ f`
(and the precomputed `k` with a warning when no prefix reaches `f`). -/
theorem threshold_minimal (cum : List Int) (f : Int) (h : cum.Pairwise (· ≤ ·)) :
    let r := Gen.nModesRequiredDecomposer cum.length cum f
    (r.2 = true → r.1 = cum.length ∧ ∀ i (hi : i < cum.length), cum[i] < f) ∧
    (r.2 = false → ∃ m : Nat, r.1 = m ∧ 1 ≤ m ∧ m ≤ cum.length ∧
        (∀ i (hi : i < cum.length), i + 1 < m → cum[i] < f) ∧ (∀ hm : m - 1 < cum.length, f ≤ cum[m - 1])) := by
  intro r
  obtain ⟨c, hc⟩ : ∃ c, cum.countP (fun c => decide (c ≥ f)) = c := ⟨_, rfl⟩
  have key := hc ▸ lt_iff_of_sorted cum f h
  have hcnt : c ≤ cum.length := hc ▸ List.countP_le_length
  simp only [r, Gen.nModesRequiredDecomposer, Gen.nModesRequiredRawDecomposer, hc]
  by_cases hgt : (cum.length : Int) - c + 1 > cum.length
  · -- nothing reaches `f`: the clip is active
    rw [if_pos hgt]
    exact ⟨fun _ => ⟨rfl, fun i hi => (key i hi).mpr (by omega)⟩, fun hw => Bool.noConfusion hw⟩
  · rw [if_neg hgt]
    exact ⟨fun hw => Bool.noConfusion hw, fun _ => ⟨cum.length - c + 1, by omega, Nat.le_add_left 1 _, by omega,
      fun i hi him => (key i hi).mpr (Nat.lt_of_succ_lt_succ him),
      fun hm => Int.not_lt.mp (mt (key _ hm).mp (Nat.lt_irrefl _))⟩⟩

end Thr
