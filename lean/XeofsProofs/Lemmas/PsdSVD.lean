import Mathlib.LinearAlgebra.Matrix.PosDef
import Mathlib.Analysis.RCLike.Basic
import Mathlib.Analysis.Matrix.Order
import XeofsProofs.Lemmas.Columns

namespace XP.Psd
open Matrix
open scoped ComplexOrder

variable {𝕜 : Type*} [RCLike 𝕜] {p : ℕ}

/-- For a PSD matrix, any SVD with positive singular values has equal left and right factors. -/
theorem svd_of_psd {C U V : Matrix (Fin p) (Fin p) 𝕜} {s : Fin p → ℝ}
    (hC : C.PosSemidef) (hU : Uᴴ * U = 1) (hV : Vᴴ * V = 1) (hs : ∀ i, 0 < s i)
    (h : C = U * diagonal (fun i => (s i : 𝕜)) * Vᴴ) : U = V := by
  have h1 : C * V = U * diagonal (fun i => (s i : 𝕜)) := by rw [h, Matrix.mul_assoc, hV, Matrix.mul_one]
  have h2 : C * U = V * diagonal (fun i => (s i : 𝕜)) := by
    rw [← hC.1.eq, h, conjTranspose_mul, conjTranspose_mul, conjTranspose_conjTranspose, diagonal_ofReal_conjTranspose,
      Matrix.mul_assoc, Matrix.mul_assoc, hU, Matrix.mul_one]
  -- `C (U - V) = -(U - V) S`, so `(U - V)ᴴ C (U - V)` has diagonal `-‖column j of U - V‖² s j ≤ 0`
  have h3 : C * (U - V) = -((U - V) * diagonal (fun i => (s i : 𝕜))) := by
    rw [Matrix.mul_sub, h1, h2, ← Matrix.sub_mul, ← neg_sub U V, Matrix.neg_mul]
  have hcol : ∀ j, ((U - V)ᴴ * (U - V)) j j = 0 := by
    intro j
    have a1 : 0 ≤ ((U - V)ᴴ * C * (U - V)) j j := (hC.conjTranspose_mul_mul_same (U - V)).diag_nonneg
    rw [Matrix.mul_assoc, h3, Matrix.mul_neg, ← Matrix.mul_assoc, Matrix.neg_apply, Matrix.mul_diagonal, neg_nonneg] at a1
    rcases (posSemidef_conjTranspose_mul_self (U - V)).diag_nonneg.eq_or_lt with h0 | hpos
    · exact h0.symm
    · exact absurd (mul_pos hpos (RCLike.ofReal_pos.mpr (hs j))) a1.not_gt
  exact Matrix.ext fun k j => sub_eq_zero.mp (col_zero_of_gram_zero (U - V) j (hcol j) k)

end XP.Psd
