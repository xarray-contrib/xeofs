import XeofsProofs.Lemmas.EofModel
import XeofsModel.Cpcca
/-! CPCCA core (`XeofsModel/Cpcca.lean`): what the executable definitions compute, in Mathlib's matrix language (no property statements). -/
open XM Matrix XP.EofM

variable {𝕜 : Type} [RCLike 𝕜] {n p q r k m : ℕ}

namespace XP.CpccaM

theorem crossCov_toMatrix (X : Mat n p 𝕜) (Y : Mat n q 𝕜) :
    (crossCov (ρ := ℝ) X Y).toMatrix
      = ((Gen.crossCovDenominator (n : ℝ) : ℝ) : 𝕜)⁻¹ • ((X.toMatrix)ᴴ * Y.toMatrix) := by
  rw [crossCov, toMatrix_ofFn_divReal, toMatrix_mul, toMatrix_conjT]; rfl

section
variable (hk : k ≤ r) (X : Mat n p 𝕜) (Y : Mat n q 𝕜) (Q1 : Mat p r 𝕜) (s : Fin r → ℝ) (Q2 : Mat q r 𝕜) (sgn : Fin k → ℝ)

theorem comps1_toMatrix :
    (cpccaFit hk X Y Q1 s Q2 sgn).comps1.toMatrix = Q1.toMatrix.submatrix id (Fin.castLE hk) * rdiag sgn := by
  ext i j; simp [cpccaFit, rdiag, Matrix.mul_diagonal]

theorem comps2_toMatrix :
    (cpccaFit hk X Y Q1 s Q2 sgn).comps2.toMatrix = Q2.toMatrix.submatrix id (Fin.castLE hk) * rdiag sgn := by
  ext i j; simp [cpccaFit, rdiag, Matrix.mul_diagonal]

theorem scores1_toMatrix :
    (cpccaFit hk X Y Q1 s Q2 sgn).scores1.toMatrix = X.toMatrix * (Q1.toMatrix.submatrix id (Fin.castLE hk) * rdiag sgn) := by
  rw [← comps1_toMatrix hk X Y Q1 s Q2 sgn]; exact toMatrix_mul _ _

theorem scores2_toMatrix :
    (cpccaFit hk X Y Q1 s Q2 sgn).scores2.toMatrix = Y.toMatrix * (Q2.toMatrix.submatrix id (Fin.castLE hk) * rdiag sgn) := by
  rw [← comps2_toMatrix hk X Y Q1 s Q2 sgn]; exact toMatrix_mul _ _

end

/-- leading block of `Q1ᴴ C Q2` for an SVD `C = Q1 Σ Q2ᴴ` -/
theorem leading_block {C : Matrix (Fin p) (Fin q) 𝕜} {Q1 : Matrix (Fin p) (Fin r) 𝕜} {s : Fin r → ℝ}
    {Q2 : Matrix (Fin q) (Fin r) 𝕜} (h : XP.SVD.IsSVD C Q1 s Q2) (e : Fin k → Fin r) (he : Function.Injective e) :
    (Q1.submatrix id e)ᴴ * C * Q2.submatrix id e = rdiag (fun j => s (e j)) := by
  rw [Matrix.mul_assoc, proj_leading h e, ← Matrix.mul_assoc, submatrix_cols_orthonormal Q1 e he h.hU, Matrix.one_mul]

end XP.CpccaM
