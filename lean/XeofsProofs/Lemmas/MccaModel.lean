import XeofsProofs.Bridge
import XeofsModel.Mcca
/-! multi-set CCA (`XeofsModel/Mcca.lean`; real data, as the source asserts with `assert_not_complex`): what the executable definitions compute, in Mathlib's matrix language (no property statements). -/
open XM Matrix

variable {n m P Q k : ℕ}

namespace XP.MccaM

/-- the sample covariance of the concatenated views as the model computes it -/
noncomputable def cov (X : Mat n P ℝ) : Matrix (Fin P) (Fin P) ℝ := (npCov (ρ := ℝ) X).toMatrix

/-- `np.cov` is symmetric -/
theorem cov_symm (X : Mat n P ℝ) (a b : Fin P) : cov X a b = cov X b a := by
  simp only [cov, npCov, toMatrix_apply, Mat.get_ofFn, Entry.divReal_eq, sumFin_eq]
  congr 1
  exact Finset.sum_congr rfl fun t _ => mul_comm _ _

/-- unit-norm weights per view, for ANY weight matrix (what `mccaFit` stores as loadings) -/
theorem unit_of_weights (W : Mat Q k ℝ) (blkQ : Fin Q → ℕ) (v : ℕ) (j : Fin k)
    (hpos : 0 < ∑ a, (if blkQ a = v then (W.get a j) ^ 2 else 0)) :
    ∑ a, (((viewPart (ρ := ℝ) W blkQ v).divCols (viewNorm (ρ := ℝ) W blkQ v)).get a j) ^ 2 = 1 := by
  set S := ∑ a, (if blkQ a = v then (W.get a j) ^ 2 else 0) with hS
  have hnorm : viewNorm (ρ := ℝ) W blkQ v j = Real.sqrt S := by
    rw [viewNorm, foldl_add_eq_sum]
    refine congrArg Real.sqrt (Finset.sum_congr rfl fun a _ => ?_)
    split_ifs <;> simp [RCLike.normSq_apply, pow_two]
  have hl : ∀ a, ((viewPart (ρ := ℝ) W blkQ v).divCols (viewNorm (ρ := ℝ) W blkQ v)).get a j ^ 2
      = (if blkQ a = v then (W.get a j) ^ 2 else 0) / S := by
    intro a
    simp only [Mat.divCols, Mat.get_ofFn, Entry.divReal_eq, viewPart, hnorm, Zero.zero_eq, RCLike.ofReal_real_eq_id, id]
    rw [div_pow, Real.sq_sqrt hpos.le]
    split_ifs <;> simp
  simp only [hl]
  rw [← Finset.sum_div, div_self hpos.ne']

/-- the loadings of a view have unit norm over that view's features (whenever its weights do not vanish) -/
theorem loadings_unit (Xphys : Mat n Q ℝ) (blkQ : Fin Q → ℕ) (B : Mat Q P ℝ) (E : Mat P k ℝ) (lam0 : Fin k → ℝ)
    (perm : Fin k → Fin k) (v : ℕ) (j : Fin k)
    (hpos : 0 < ∑ a, (if blkQ a = v then ((mccaFit Xphys blkQ B E lam0 perm).weights.get a j) ^ 2 else 0)) :
    ∑ a, (((mccaFit Xphys blkQ B E lam0 perm).loadings v).get a j) ^ 2 = 1 :=
  unit_of_weights (mccaFit Xphys blkQ B E lam0 perm).weights blkQ v j hpos

end XP.MccaM
