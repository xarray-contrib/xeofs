import XeofsProofs.Lemmas.EofModel
import XeofsModel.Rot
/-! EOFRotator (`XeofsModel/Rot.lean`): what the executable definitions compute, in Mathlib's matrix language (no property statements). -/
open XM Matrix XP.EofM

variable {𝕜 : Type} [RCLike 𝕜] {n p k m : ℕ}

namespace XP.RotM

theorem colSqSums_eq (L : Mat p k 𝕜) (j : Fin k) : colSqSums (ρ := ℝ) L j = ∑ i, RCLike.normSq (L.get i j) :=
  foldl_add_eq_sum p _

theorem rotExpvar_nonneg (L : Mat p k 𝕜) (j : Fin k) : 0 ≤ rotExpvar (ρ := ℝ) L j := by
  rw [rotExpvar, colSqSums_eq]; exact Finset.sum_nonneg fun i _ => RCLike.normSq_nonneg _

/-- pseudo-norms are `√expvar · √(n−1)` -/
theorem rotNorms_eq (L : Mat p k 𝕜) (j : Fin k) :
    rotNorms (ρ := ℝ) n L j = Real.sqrt (rotExpvar (ρ := ℝ) L j) * Real.sqrt ((n : ℝ) - 1) := by
  rw [rotNorms, Gen.rotatorNorm, Num.sqrt_real, Num.ofNat_real, Num.ofNat_real, Nat.cast_one, Real.sqrt_mul (rotExpvar_nonneg L j)]

/-- the loading scale of an unrotated mode, `√(s²/(n−1))`, is `s/√(n−1)` -/
theorem rotatorLoadingScale_eofExpVar {s : ℝ} (hs : 0 ≤ s) (n : ℝ) :
    Gen.rotatorLoadingScale (Gen.eofExpVar s n) = s / Real.sqrt (n - 1) := by
  rw [Gen.rotatorLoadingScale, Gen.eofExpVar, Num.sqrt_real, Num.ofNat_real, Nat.cast_one, Real.sqrt_div (mul_self_nonneg s),
    Real.sqrt_mul_self hs]

section
variable (comps0 : Mat p k 𝕜) (expvar0 : Fin k → ℝ) (scores0 : Mat n k 𝕜) (svals0 : Fin k → ℝ) (R RinvT : Mat k k 𝕜)
  (sgn : Fin k → ℝ) (σ : Fin k ≃ Fin k)

theorem rotLoadings_toMatrix :
    (rotLoadings comps0 expvar0 R).toMatrix
      = comps0.toMatrix * rdiag (fun j => Gen.rotatorLoadingScale (expvar0 j)) * R.toMatrix := by
  rw [rotLoadings, toMatrix_mul, toMatrix_scaleCols_ofReal]

theorem rotComps_toMatrix (L : Mat p k 𝕜) :
    (rotComps (ρ := ℝ) L).toMatrix = L.toMatrix * rdiag fun j => (Real.sqrt (rotExpvar (ρ := ℝ) L j))⁻¹ :=
  toMatrix_divCols_rdiag L _

theorem rotScoresUnsorted_toMatrix (norms : Fin k → ℝ) :
    (rotScoresUnsorted scores0 svals0 RinvT norms).toMatrix
      = scores0.toMatrix * rdiag (𝕜 := 𝕜) (fun j => (svals0 j)⁻¹) * RinvT.toMatrix * rdiag (𝕜 := 𝕜) norms := by
  rw [rotScoresUnsorted, toMatrix_scaleCols_ofReal, toMatrix_mul, toMatrix_divCols_rdiag]

/-- what `rotFit` stores: the unsorted patterns / scores times the signs-and-order matrix -/
theorem comps_toMatrix :
    (rotFit comps0 expvar0 scores0 svals0 R RinvT sgn σ).comps.toMatrix
      = (rotComps (ρ := ℝ) (rotLoadings comps0 expvar0 R)).toMatrix * (rdiag sgn).submatrix id σ :=
  toMatrix_signPerm _ sgn σ

theorem scores_toMatrix :
    (rotFit comps0 expvar0 scores0 svals0 R RinvT sgn σ).scores.toMatrix
      = (rotScoresUnsorted scores0 svals0 RinvT (rotNorms (ρ := ℝ) n (rotLoadings comps0 expvar0 R))).toMatrix
          * (rdiag sgn).submatrix id σ :=
  toMatrix_signPerm _ sgn σ

end

end XP.RotM
