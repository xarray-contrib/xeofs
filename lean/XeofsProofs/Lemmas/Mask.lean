import Mathlib.Data.Fintype.Card
import Mathlib.Data.Finset.Card

namespace XP.Mask
open Finset

variable {n m : ℕ}

def colValid (mask : Fin n → Fin m → Bool) (j : Fin m) : Bool := decide (∃ i, mask i j = true)
def rowValid (mask : Fin n → Fin m → Bool) (i : Fin n) : Bool := decide (∃ j, mask i j = true)
def rowCount (mask : Fin n → Fin m → Bool) (i : Fin n) : ℕ := (univ.filter fun j => mask i j = true).card
def nValidCols (mask : Fin n → Fin m → Bool) : ℕ := (univ.filter fun j => colValid mask j = true).card

/-- the Sanitizer's test: every sample has either no valid feature or as many as there are valid features -/
def noIsolated (mask : Fin n → Fin m → Bool) : Prop := ∀ i, rowCount mask i = 0 ∨ rowCount mask i = nValidCols mask

theorem rectangular_mask (mask : Fin n → Fin m → Bool) :
    noIsolated mask ↔ ∀ i j, mask i j = (rowValid mask i && colValid mask j) := by
  constructor
  · intro h i j
    cases hm : mask i j
    · -- a non-empty row has as many entries as there are valid columns, hence contains every valid column
      refine (Bool.eq_false_iff.mpr fun hand => ?_).symm
      obtain ⟨hr, hc⟩ := Bool.and_eq_true_iff.mp hand
      obtain ⟨j', hj'⟩ := of_decide_eq_true hr
      have hne : rowCount mask i ≠ 0 := (card_pos.mpr ⟨j', mem_filter.mpr ⟨mem_univ j', hj'⟩⟩).ne'
      have hsub : (univ.filter fun j => mask i j = true) ⊆ univ.filter fun j => colValid mask j = true :=
        fun j hj => mem_filter.mpr ⟨mem_univ j, decide_eq_true ⟨i, (mem_filter.mp hj).2⟩⟩
      have hj : j ∈ univ.filter fun j => mask i j = true := by
        rw [eq_of_subset_of_card_le hsub ((h i).resolve_left hne).ge]
        exact mem_filter.mpr ⟨mem_univ j, hc⟩
      exact Bool.false_ne_true (hm ▸ (mem_filter.mp hj).2)
    · exact (Bool.and_eq_true_iff.mpr ⟨decide_eq_true ⟨j, hm⟩, decide_eq_true ⟨i, hm⟩⟩).symm
  · intro h i
    cases hr : rowValid mask i
    · refine Or.inl (card_eq_zero.mpr (filter_eq_empty_iff.mpr fun j _ => ?_))
      rw [h i j, hr, Bool.false_and]
      exact Bool.false_ne_true
    · refine Or.inr (congrArg card (filter_congr fun j _ => ?_))
      rw [h i j, hr, Bool.true_and]

end XP.Mask
