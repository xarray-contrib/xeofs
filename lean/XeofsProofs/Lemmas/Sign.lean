import Mathlib.Analysis.RCLike.Basic
import Mathlib.LinearAlgebra.Matrix.Trace
import Mathlib.LinearAlgebra.Matrix.ConjTranspose
import XeofsProofs.Lemmas.Columns

namespace XP.Sign
open Matrix Finset

variable {𝕜 : Type*} [RCLike 𝕜] {n p : ℕ}

/-- C15/C07 sign rule on the two numbers the code looks at (`max` and `min` of a real mode):
after multiplying by `ε = if |M| ≥ |m| then 1 else -1`, the largest-magnitude loading is positive:
new max ≥ |new min|. -/
theorem sign_rule_max_abs_positive (M m : ℝ) (hmM : m ≤ M) (hx : 0 ≤ M ∨ m < M) :
    let ε : ℝ := if |M| ≥ |m| then 1 else -1
    let M' := if |M| ≥ |m| then M else -m       -- max of ε • v
    let m' := if |M| ≥ |m| then m else -M       -- min of ε • v
    |m'| ≤ M' ∧ ε * ε = 1 := by
  intro ε M' m'
  by_cases h : |M| ≥ |m|
  · simp only [ε, M', m', if_pos h]
    refine ⟨?_, one_mul 1⟩
    -- M ≥ m and |M| ≥ |m| force M ≥ 0 and hence M = |M| ≥ |m|
    have hM0 : 0 ≤ M := by
      by_contra hneg
      rw [abs_of_neg (not_le.mp hneg)] at h
      exact hx.elim hneg (neg_le_neg_iff.mp ((neg_le_abs m).trans h)).not_gt
    rwa [abs_of_nonneg hM0] at h
  · simp only [ε, M', m', if_neg h]
    refine ⟨?_, by rw [neg_mul_neg, one_mul]⟩
    -- |M| < |m| and m ≤ M force m < 0, so |m| = -m
    have hm0 : m < 0 := by
      by_contra hnn
      rw [not_lt] at hnn
      rw [abs_of_nonneg (hnn.trans hmM), abs_of_nonneg hnn] at h
      exact h hmM
    rw [abs_neg]
    rw [abs_of_neg hm0] at h
    exact (not_le.mp h).le

/-- C01: for a column-centred matrix the `var(ddof=1).sum()` total variance equals the trace of the
sample covariance (here: the un-centred second-moment form the code's formula reduces to when means are 0) -/
theorem total_variance_eq_trace (X : Matrix (Fin n) (Fin p) 𝕜) :
    ∑ j, ∑ t, (‖X t j‖ ^ 2) = RCLike.re (trace (Xᴴ * X)) := by
  simp only [trace, diag_apply, mul_apply, conjTranspose_apply, map_sum, star_mul_self_eq_norm_sq, RCLike.ofReal_re]

/-- the excluded point is real: an all-equal negative mode is NOT flipped by the rule as coded
(`|max| ≥ |min|` holds with max = min = -1) -/
example : (if |(-1 : ℝ)| ≥ |(-1 : ℝ)| then (1 : ℝ) else -1) = 1 := if_pos le_rfl

end XP.Sign
