import Mathlib.LinearAlgebra.Matrix.ConjTranspose
import Mathlib.LinearAlgebra.Matrix.Hermitian
import Mathlib.LinearAlgebra.Matrix.Trace
import Mathlib.Analysis.RCLike.Basic
import XeofsProofs.Lemmas.Columns

namespace XP.Scale
open Matrix

variable {𝕜 : Type*} [RCLike 𝕜] {n p q r k : ℕ}

structure IsSVD (X : Matrix (Fin n) (Fin p) 𝕜) (U : Matrix (Fin n) (Fin r) 𝕜) (s : Fin r → ℝ)
    (V : Matrix (Fin p) (Fin r) 𝕜) : Prop where
  hU : Uᴴ * U = 1
  hV : Vᴴ * V = 1
  hX : X = U * diagonal (fun i => (s i : 𝕜)) * Vᴴ
  nonneg : ∀ i, 0 ≤ s i
  anti : Antitone s

/-- C08 global scale: an SVD of `c • X` is obtained by moving the phase into `U` and `‖c‖` into `s` -/
theorem svd_global_scale {X : Matrix (Fin n) (Fin p) 𝕜} {U : Matrix (Fin n) (Fin r) 𝕜} {s : Fin r → ℝ}
    {V : Matrix (Fin p) (Fin r) 𝕜} (h : IsSVD X U s V) (c : 𝕜) (hc : c ≠ 0) :
    IsSVD (c • X) ((c / (‖c‖ : 𝕜)) • U) (fun i => ‖c‖ * s i) V := by
  have hn : ‖c‖ ≠ 0 := norm_ne_zero_iff.mpr hc
  refine ⟨?_, h.hV, ?_, fun i => mul_nonneg (norm_nonneg c) (h.nonneg i), h.anti.const_mul (norm_nonneg c)⟩
  · -- `c / ‖c‖` has modulus one
    simp only [conjTranspose_smul, Matrix.smul_mul, Matrix.mul_smul, smul_smul, h.hU]
    rw [RCLike.star_def, RCLike.mul_conj, norm_div, RCLike.norm_ofReal, abs_norm, div_self hn, RCLike.ofReal_one, one_pow,
      one_smul]
  · rw [h.hX, diagonal_ofReal_mul]
    simp only [Matrix.smul_mul, Matrix.mul_smul, smul_smul, mul_div_cancel₀ c (RCLike.ofReal_ne_zero.mpr hn)]

/-- C09: the cross-covariance of the two score sets is `diag σ` -/
theorem scores_cross_cov_diag (Xw : Matrix (Fin n) (Fin p) 𝕜) (Yw : Matrix (Fin n) (Fin q) 𝕜)
    (Q1 : Matrix (Fin p) (Fin r) 𝕜) (Q2 : Matrix (Fin q) (Fin r) 𝕜) (σ : Fin r → ℝ) (c : 𝕜)
    (h : IsSVD (c • (Xwᴴ * Yw)) Q1 σ Q2) :
    c • ((Xw * Q1)ᴴ * (Yw * Q2)) = diagonal (fun i => (σ i : 𝕜)) := by
  -- bring the decomposed matrix `c • XwᴴYw` together, then cancel `Q2ᴴQ2` and `Q1ᴴQ1`
  rw [conjTranspose_mul, Matrix.mul_assoc Q1ᴴ, ← Matrix.mul_assoc Xwᴴ, ← Matrix.mul_smul, ← Matrix.smul_mul, h.hX,
    Matrix.mul_assoc (Q1 * _), h.hV, Matrix.mul_one, ← Matrix.mul_assoc, h.hU, Matrix.one_mul]

/-- C09 (MCA): removing mode `i` from both fields removes exactly `σ_i u vᴴ` from the cross-covariance
    (the squared-covariance-fraction identity follows by taking Frobenius norms) -/
theorem mca_residual (C : Matrix (Fin p) (Fin q) 𝕜) (u : Matrix (Fin p) (Fin 1) 𝕜) (v : Matrix (Fin q) (Fin 1) 𝕜)
    (σ : 𝕜) (hu : uᴴ * u = 1) (hv : vᴴ * v = 1) (h1 : C * v = σ • u) (h2 : uᴴ * C = σ • vᴴ) :
    (1 - u * uᴴ) * C * (1 - v * vᴴ) = C - σ • (u * vᴴ) := by
  -- the left projector removes the triplet: `(1 - u uᴴ) C = C - σ • u vᴴ`
  rw [Matrix.sub_mul, Matrix.one_mul, Matrix.mul_assoc u, h2, Matrix.mul_smul]
  -- what is left already annihilates `v`
  rw [Matrix.mul_sub, Matrix.mul_one, ← Matrix.mul_assoc, Matrix.sub_mul, h1, Matrix.smul_mul, Matrix.mul_assoc u, hv,
    Matrix.mul_one, sub_self, Matrix.zero_mul, sub_zero]

end XP.Scale
