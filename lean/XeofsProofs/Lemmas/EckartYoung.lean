import Mathlib.LinearAlgebra.Matrix.PosDef
import Mathlib.Analysis.Matrix.Order
import Mathlib.Analysis.RCLike.Basic
import Mathlib.LinearAlgebra.Matrix.Trace
import Mathlib.Algebra.Order.BigOperators.Group.Finset
import Mathlib.Data.Fintype.Fin
import Mathlib.Tactic.Linarith
import Mathlib.Analysis.InnerProductSpace.PiL2
import Mathlib.LinearAlgebra.Matrix.Rank
import Mathlib.LinearAlgebra.Matrix.ConjTranspose

namespace XP.EY
open Matrix Finset Module WithLp
open scoped ComplexOrder

variable {𝕜 : Type*} [RCLike 𝕜] {n p k : ℕ}

-- (A.6)
theorem kyfan_weights (a c : Fin p → ℝ) (k : ℕ) (ha : Antitone a) (ha0 : ∀ i, 0 ≤ a i)
    (hc0 : ∀ i, 0 ≤ c i) (hc1 : ∀ i, c i ≤ 1) (hsum : ∑ i, c i ≤ k) :
    ∑ i, a i * c i ≤ ∑ i ∈ univ.filter (fun i : Fin p => i.val < k), a i := by
  rcases le_or_gt p k with hpk | hkp
  · rw [filter_true_of_mem fun i _ => i.isLt.trans_le hpk]
    exact sum_le_sum fun i _ => mul_le_of_le_one_right (ha0 i) (hc1 i)
  -- threshold `t = a k`: weight on an index below `k` is worth at least `t`, on one above at most `t`
  set t := a ⟨k, hkp⟩
  have key : ∀ i : Fin p, a i * c i ≤ (if i.val < k then a i else 0) + t * (c i - if i.val < k then 1 else 0) := by
    intro i
    split_ifs with hi
    · have h1 : t ≤ a i := ha hi.le
      linarith [mul_nonneg (sub_nonneg.mpr h1) (sub_nonneg.mpr (hc1 i))]
    · have h1 : a i ≤ t := ha (not_lt.mp hi)
      linarith [mul_le_mul_of_nonneg_right h1 (hc0 i)]
  calc ∑ i, a i * c i
      ≤ ∑ i, ((if i.val < k then a i else 0) + t * (c i - if i.val < k then 1 else 0)) :=
        sum_le_sum fun i _ => key i
    _ = ∑ i ∈ univ.filter (fun i : Fin p => i.val < k), a i + t * (∑ i, c i - k) := by
        rw [sum_add_distrib, ← mul_sum, sum_sub_distrib, ← sum_filter, sum_boole, Fin.card_filter_val_lt,
          min_eq_right hkp.le]
    _ ≤ ∑ i ∈ univ.filter (fun i : Fin p => i.val < k), a i :=
        add_le_of_nonpos_right (mul_nonpos_of_nonneg_of_nonpos (ha0 _) (sub_nonpos.mpr hsum))

/-- `W Wᴴ` is the orthogonal projector onto the span of the orthonormal columns of `W` -/
theorem isStarProjection_mul_conjTranspose {W : Matrix (Fin p) (Fin k) 𝕜} (hW : Wᴴ * W = 1) :
    IsStarProjection (W * Wᴴ) where
  isIdempotentElem := by
    rw [IsIdempotentElem, Matrix.mul_assoc, ← Matrix.mul_assoc Wᴴ, hW, Matrix.one_mul]
  isSelfAdjoint := (isHermitian_mul_conjTranspose_self W).isSelfAdjoint

open scoped MatrixOrder in
/-- diagonal of `G Gᴴ` for `G` with orthonormal columns lies in [0,1] and sums to the number of columns -/
theorem proj_diag_bounds (G : Matrix (Fin p) (Fin k) 𝕜) (hG : Gᴴ * G = 1) :
    (∀ i, 0 ≤ RCLike.re ((G * Gᴴ) i i)) ∧ (∀ i, RCLike.re ((G * Gᴴ) i i) ≤ 1) ∧
      ∑ i, RCLike.re ((G * Gᴴ) i i) = k := by
  have hP := isStarProjection_mul_conjTranspose hG
  refine ⟨fun i => ?_, fun i => ?_, ?_⟩
  · exact (RCLike.nonneg_iff.mp hP.nonneg.posSemidef.diag_nonneg).1
  · have h := (RCLike.nonneg_iff.mp (hP.one_sub_nonneg.posSemidef.diag_nonneg (i := i))).1
    rw [Matrix.sub_apply, Matrix.one_apply_eq, map_sub, RCLike.one_re] at h
    exact sub_nonneg.mp h
  · calc ∑ i, RCLike.re ((G * Gᴴ) i i) = RCLike.re (trace (G * Gᴴ)) := (map_sum _ _ _).symm
      _ = k := by rw [trace_mul_comm, hG, trace_one, Fintype.card_fin, RCLike.natCast_re]

/-- **Ky Fan maximum principle for a diagonalised PSD matrix**: the variance captured by any orthonormal
`k`-frame `W` is at most the sum of the `k` leading eigenvalues. -/
theorem captured_variance_le (M V : Matrix (Fin p) (Fin p) 𝕜) (d : Fin p → ℝ) (hd : Antitone d) (hd0 : ∀ i, 0 ≤ d i)
    (hV : V * Vᴴ = 1) (hM : M = V * diagonal (fun i => (d i : 𝕜)) * Vᴴ)
    (W : Matrix (Fin p) (Fin k) 𝕜) (hW : Wᴴ * W = 1) :
    RCLike.re (trace (Wᴴ * M * W)) ≤ ∑ i ∈ univ.filter (fun i : Fin p => i.val < k), d i := by
  set G := Vᴴ * W with hGdef
  have hG : Gᴴ * G = 1 := by
    rw [hGdef, conjTranspose_mul, conjTranspose_conjTranspose, Matrix.mul_assoc, ← Matrix.mul_assoc V, hV,
      Matrix.one_mul, hW]
  obtain ⟨c0, c1, csum⟩ := proj_diag_bounds G hG
  have htr : trace (Wᴴ * M * W) = ∑ i, (d i : 𝕜) * (G * Gᴴ) i i := by
    have : Wᴴ * M * W = Gᴴ * diagonal (fun i => (d i : 𝕜)) * G := by
      rw [hM, hGdef]
      simp only [conjTranspose_mul, conjTranspose_conjTranspose, Matrix.mul_assoc]
    rw [this, Matrix.mul_assoc, trace_mul_comm, Matrix.mul_assoc, trace]
    simp only [diag_apply, Matrix.diagonal_mul]
  rw [htr, map_sum]
  simp_rw [RCLike.re_ofReal_mul]
  exact kyfan_weights d _ k hd hd0 c0 c1 (le_of_eq csum)

/-- squared Frobenius norm -/
noncomputable def frob2 (A : Matrix (Fin n) (Fin p) 𝕜) : ℝ := RCLike.re (trace (Aᴴ * A))

theorem frob2_nonneg (A : Matrix (Fin n) (Fin p) 𝕜) : 0 ≤ frob2 A := by
  have h := (posSemidef_conjTranspose_mul_self A).trace_nonneg
  exact (RCLike.nonneg_iff.mp h).1

theorem frob2_mul_proj (Z : Matrix (Fin n) (Fin p) 𝕜) {P : Matrix (Fin p) (Fin p) 𝕜} (hP : IsStarProjection P) :
    frob2 (Z * P) = RCLike.re (trace (Zᴴ * Z * P)) := by
  rw [frob2, conjTranspose_mul, hP.isSelfAdjoint.isHermitian.eq, Matrix.mul_assoc, trace_mul_comm,
    Matrix.mul_assoc, Matrix.mul_assoc, hP.isIdempotentElem.eq, ← Matrix.mul_assoc]

/-- Pythagoras for an orthogonal projector `P`: ‖Z‖² = ‖Z(1-P)‖² + ‖ZP‖² -/
theorem frob2_split (Z : Matrix (Fin n) (Fin p) 𝕜) {P : Matrix (Fin p) (Fin p) 𝕜} (hP : IsStarProjection P) :
    frob2 Z = frob2 (Z * (1 - P)) + frob2 (Z * P) := by
  rw [frob2_mul_proj Z hP, frob2_mul_proj Z hP.one_sub, ← map_add, ← trace_add, ← Matrix.mul_add,
    sub_add_cancel, Matrix.mul_one, frob2]

/-- **Eckart–Young, frame form**: no matrix `A * Wᴴ` whose rows lie in the span of an orthonormal
`k`-frame `W` approximates `X` better (in Frobenius norm) than allowed by the captured variance. -/
theorem eckart_young_frame (X : Matrix (Fin n) (Fin p) 𝕜) (A : Matrix (Fin n) (Fin k) 𝕜)
    (W : Matrix (Fin p) (Fin k) 𝕜) (hW : Wᴴ * W = 1) :
    RCLike.re (trace (Xᴴ * X)) - RCLike.re (trace (Wᴴ * (Xᴴ * X) * W)) ≤ frob2 (X - A * Wᴴ) := by
  have hP := isStarProjection_mul_conjTranspose hW
  -- the part of `X` outside `span W` is out of reach of `A * Wᴴ`, and projecting can only shrink the error
  calc RCLike.re (trace (Xᴴ * X)) - RCLike.re (trace (Wᴴ * (Xᴴ * X) * W))
      = frob2 (X * (1 - W * Wᴴ)) := by
        rw [frob2_mul_proj X hP.one_sub, Matrix.mul_sub, Matrix.mul_one, trace_sub, map_sub,
          trace_mul_comm (Xᴴ * X), Matrix.mul_assoc W, trace_mul_comm W]
    _ = frob2 ((X - A * Wᴴ) * (1 - W * Wᴴ)) := by
        rw [Matrix.sub_mul, Matrix.mul_assoc A, Matrix.mul_sub Wᴴ, Matrix.mul_one, ← Matrix.mul_assoc Wᴴ, hW,
          Matrix.one_mul, sub_self, Matrix.mul_zero, sub_zero]
    _ ≤ frob2 (X - A * Wᴴ) := by
        rw [frob2_split (X - A * Wᴴ) hP]
        exact le_add_of_nonneg_right (frob2_nonneg _)

/-- a subspace of `𝕜ᵖ` is the row space of a matrix with orthonormal rows -/
theorem exists_orthonormal_rows (S : Submodule 𝕜 (EuclideanSpace 𝕜 (Fin p))) :
    ∃ R : Matrix (Fin (finrank 𝕜 S)) (Fin p) 𝕜, R * Rᴴ = 1 ∧ ∀ x ∈ S, ∃ a, a ᵥ* R = ofLp x := by
  let b := stdOrthonormalBasis 𝕜 S
  have hb := orthonormal_iff_ite.mp (b.orthonormal.comp_linearIsometry S.subtypeₗᵢ)
  refine ⟨of fun l => ofLp (S.subtypeₗᵢ (b l)), ?_, fun x hx => ?_⟩
  · ext l l'
    refine (hb l' l).trans ?_
    rw [one_apply]
    exact if_congr eq_comm rfl rfl
  · have h := congrArg (fun y : S => ofLp (y : EuclideanSpace 𝕜 (Fin p))) (b.sum_repr ⟨x, hx⟩)
    simp only [Submodule.coe_sum, Submodule.coe_smul, ofLp_sum, ofLp_smul] at h
    exact ⟨_, (vecMul_eq_sum _ _).trans h⟩

/-- every matrix of rank ≤ k can be written `A * Wᴴ` with `W` an orthonormal frame of `r ≤ k` columns -/
theorem exists_frame_of_rank_le (B : Matrix (Fin n) (Fin p) 𝕜) (hk : B.rank ≤ k) :
    ∃ (r : ℕ) (_ : r ≤ k) (A : Matrix (Fin n) (Fin r) 𝕜) (W : Matrix (Fin p) (Fin r) 𝕜),
      Wᴴ * W = 1 ∧ B = A * Wᴴ := by
  -- the row space of `B`, in Euclidean space
  let e := (WithLp.linearEquiv 2 𝕜 (Fin p → 𝕜)).symm
  let S' : Submodule 𝕜 (Fin p → 𝕜) := Submodule.span 𝕜 (Set.range B.row)
  have hfin : finrank 𝕜 (S'.map e.toLinearMap) = B.rank := by
    rw [rank_eq_finrank_span_row]
    exact LinearEquiv.finrank_map_eq e S'
  obtain ⟨R, hR, hS⟩ := exists_orthonormal_rows (S'.map e.toLinearMap)
  choose a ha using fun i => hS (e (B.row i)) (Submodule.mem_map_of_mem (Submodule.subset_span ⟨i, rfl⟩))
  refine ⟨_, hfin.le.trans hk, of a, Rᴴ, ?_, ?_⟩ <;> rw [conjTranspose_conjTranspose]
  · exact hR
  · exact Matrix.ext fun i j => (congrFun (ha i) j).symm

/-- **Eckart–Young–Mirsky (Frobenius norm)**, from a unitary diagonalisation `XᴴX = V diag(d) Vᴴ` with
descending non-negative `d` (what a full SVD of `X` provides, `d i = s i ^ 2`): every matrix `B` of rank at most `k`
satisfies `‖X - B‖_F² ≥ Σ_{i ≥ k} d i`. -/
theorem eckart_young (X : Matrix (Fin n) (Fin p) 𝕜) (V : Matrix (Fin p) (Fin p) 𝕜) (d : Fin p → ℝ)
    (hd : Antitone d) (hd0 : ∀ i, 0 ≤ d i) (hV : V * Vᴴ = 1)
    (hM : Xᴴ * X = V * diagonal (fun i => (d i : 𝕜)) * Vᴴ)
    (B : Matrix (Fin n) (Fin p) 𝕜) (hB : B.rank ≤ k) :
    ∑ i ∈ univ.filter (fun i : Fin p => ¬ i.val < k), d i ≤ frob2 (X - B) := by
  obtain ⟨r, hr, A, W, hW, rfl⟩ := exists_frame_of_rank_le B hB
  have h1 := eckart_young_frame X A W hW
  have h2 := captured_variance_le (Xᴴ * X) V d hd hd0 hV hM W hW
  have hV' : Vᴴ * V = 1 := mul_eq_one_comm.mp hV
  -- total variance = sum of all d
  have htr : RCLike.re (trace (Xᴴ * X)) = ∑ i, d i := by
    rw [hM, Matrix.mul_assoc, trace_mul_comm, Matrix.mul_assoc, hV', Matrix.mul_one, trace_diagonal, map_sum]
    simp only [RCLike.ofReal_re]
  -- monotonicity of the leading partial sums in the number of terms
  have hmono : ∑ i ∈ univ.filter (fun i : Fin p => i.val < r), d i ≤ ∑ i ∈ univ.filter (fun i : Fin p => i.val < k), d i := by
    apply Finset.sum_le_sum_of_subset_of_nonneg
    · intro i hi; simp only [mem_filter, mem_univ, true_and] at hi ⊢; omega
    · intro i _ _; exact hd0 i
  have hsplit : ∑ i, d i = ∑ i ∈ univ.filter (fun i : Fin p => i.val < k), d i
      + ∑ i ∈ univ.filter (fun i : Fin p => ¬ i.val < k), d i := (Finset.sum_filter_add_sum_filter_not univ _ _).symm
  linarith

end XP.EY
