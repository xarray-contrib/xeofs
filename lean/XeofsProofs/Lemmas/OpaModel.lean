import XeofsProofs.Bridge
import XeofsModel.Opa
/-! OPA (`XeofsModel/Opa.lean`; real data, as the source asserts): what the executable definitions compute, in Mathlib's matrix language (no property statements). -/
open XM Matrix

variable {n p q k : ℕ}

namespace XP.OpaM

theorem transposeM_toMatrix {a b : ℕ} (A : Mat a b ℝ) : (transposeM A).toMatrix = (A.toMatrix)ᵀ := by
  ext i j; simp [transposeM]

/-- the time series of the optimally persistent patterns are the PCs times the filter patterns in PC space, `V = Cinvᵀ Ue` -/
theorem scores_toMatrix (S : Mat n q ℝ) (C : Mat p q ℝ) (tauMax : ℕ) (Cinv : Mat q q ℝ) (Ue : Mat q k ℝ) (lam : Fin k → ℝ) :
    (opaFit S C tauMax Cinv Ue lam).scores.toMatrix = S.toMatrix * ((Cinv.toMatrix)ᵀ * Ue.toMatrix) := by
  simp [opaFit, transposeM_toMatrix]

/-- the matrix handed to `eigh`: `½ · Cinv (M + Mᵀ) Cinvᵀ` -/
theorem opaTarget_toMatrix (Cinv M : Mat q q ℝ) :
    (opaTarget (ρ := ℝ) Cinv M).toMatrix
      = ((1 : ℝ) / 2) • (Cinv.toMatrix * (M.toMatrix + (M.toMatrix)ᵀ) * (Cinv.toMatrix)ᵀ) := by
  have hd : diagonal (fun _ : Fin q => ((1 : ℝ) / 2)) = ((1 : ℝ) / 2) • (1 : Matrix (Fin q) (Fin q) ℝ) := by
    rw [← diagonal_one, ← diagonal_smul]; exact congrArg diagonal (funext fun _ => (mul_one _).symm)
  rw [opaTarget, toMatrix_scaleCols, toMatrix_mul, toMatrix_mul, toMatrix_add, transposeM_toMatrix, transposeM_toMatrix]
  simp only [Entry.ofReal_eq, Num.ofNat_real, Nat.cast_one, Nat.cast_ofNat, RCLike.ofReal_real_eq_id, id]
  rw [hd, Matrix.mul_smul, Matrix.mul_one]

end XP.OpaM
