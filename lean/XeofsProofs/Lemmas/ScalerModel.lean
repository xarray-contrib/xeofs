import XeofsModel.Scaler
import Mathlib.Algebra.Field.Basic
/-! Scaler chains (`XeofsModel/Scaler.lean`)

What the Scaler's two generated operation chains compute: four guarded steps each, the inverse chain undoing the forward one
step by step in reverse order. Both equations hold by running the interpreter `XM.runChain` on the regenerated chains (`rfl`), so a
chain that changes in the source breaks them. -/
open XM

namespace XP.ScalerM

variable {α : Type}

/-- one step of a chain, taken only if its option is on -/
def stepIf (b : Bool) (g : α → α) (x : α) : α := if b then g x else x

theorem stepIf_cancel (b : Bool) {g g' : α → α} (h : ∀ x, g' (g x) = x) (x : α) : stepIf b g' (stepIf b g x) = x := by
  cases b
  · rfl
  · exact h x

variable [Add α] [Sub α] [Mul α] [Div α]

/-- `Scaler.transform`: centre, standardise, latitude weights, user weights — in the order the source has them now -/
theorem scalerTransform_eq (f : ScalerFlags) (P : ScalerParams α) (x : α) :
    scalerTransform f P x
      = stepIf f.with_coslat (· * P.coslat) (stepIf f.with_std (· / P.std) (stepIf f.with_center (· - P.mean) x)) * P.weights :=
  rfl

/-- `Scaler.inverse_transform_data` -/
theorem scalerInverse_eq (f : ScalerFlags) (P : ScalerParams α) (y : α) :
    scalerInverse f P y
      = stepIf f.with_center (· + P.mean) (stepIf f.with_std (· * P.std) (stepIf f.with_coslat (· / P.coslat) (y / P.weights))) :=
  rfl

end XP.ScalerM
