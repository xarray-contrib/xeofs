import XeofsProofs.Bridge
import XeofsProofs.Lemmas.Columns
import XeofsProofs.Lemmas.Corr
import XeofsProofs.Lemmas.EckartYoung
import XeofsProofs.Lemmas.EofModel
import XeofsProofs.Lemmas.FullSVD
import XeofsProofs.Lemmas.Mask
import XeofsProofs.Lemmas.Misc13
import XeofsProofs.Lemmas.Phase
import XeofsProofs.Lemmas.PsdSVD
import XeofsProofs.Lemmas.Recon
import XeofsProofs.Lemmas.Rot
import XeofsProofs.Lemmas.SVDSpec
import XeofsProofs.Lemmas.Scale
import XeofsProofs.Lemmas.ScalerAlg
import XeofsProofs.Lemmas.Sign
import XeofsProofs.Lemmas.Small
import XeofsProofs.Lemmas.SpecPow
import XeofsProofs.Lemmas.Threshold
import XeofsProofs.Lemmas.Whiten
import XeofsProofs.Props.C01
import XeofsProofs.Props.C02
import XeofsProofs.Props.C03
import XeofsProofs.Props.C04
import XeofsProofs.Props.C05
import XeofsProofs.Props.C06
import XeofsProofs.Props.C07
import XeofsProofs.Props.C08
import XeofsProofs.Props.C09
import XeofsProofs.Props.C10
import XeofsProofs.Props.C11
import XeofsProofs.Props.C12
import XeofsProofs.Props.C13
import XeofsProofs.Props.C14
import XeofsProofs.Props.C15
import XeofsProofs.Props.C16
import XeofsProofs.Props.C17
import XeofsProofs.Props.C18
import XeofsProofs.Props.C19
import XeofsProofs.Props.C20
